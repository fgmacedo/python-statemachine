/-!
# Binder model (C07): how a callback receives its parameters

Executable model of

* `statemachine/signature.py` — `SignatureAdapter.bind_expected` (`phase1` = the `while True` loop over
  the positional arguments, `phase2` = the `for param in chain(parameters_ex, parameters)` loop,
  `finalize` = the trailing `if kwargs:`), and the memoisation of adapters (`signature_cache`);
* `statemachine/dispatcher.py` — `callable_method`: `ba = bind_expected(*args, **kwargs)` followed by
  `a_callable(*ba.args, **ba.kwargs)` (`invoke`);
* `statemachine/event.py` — `Event.__call__` strips the reserved names from the user's keywords
  (`filterReserved`);
* `statemachine/event_data.py` — `EventData.extended_kwargs` layers the eight built-in values over the
  user's keywords by dict assignment (`extendedKwargs`).

Modelled externals (CPython 3.12, trusted to behave as documented, exercised by the correspondence
check in `harness/props/c07.py` — kinds `ba` and `call` compare them with CPython directly):

* `inspect.BoundArguments.args` / `.kwargs` (`baArgs`, `baKwargs`);
* the Python call protocol `f(*args, **kwargs)` for a function with a given signature (`pyCall`):
  positional arguments fill positional-only / positional-or-keyword parameters in order, surplus ones go
  to `*args` or are a `TypeError`; a keyword fills the positional-or-keyword / keyword-only parameter of
  that name (`TypeError` if already filled positionally), otherwise it goes to `**kwargs` or is a
  `TypeError`; an unfilled parameter takes its default or is a `TypeError`.

Names and values are `Nat` tokens; dicts are association lists (first occurrence wins). The dict that
`ba.kwargs` builds is modelled by list append; `baKwargs_nodup` (Lemmas/BinderCorner) proves that on
`bind_expected`'s result no key is inserted twice, so append *is* dict insertion there. `none` stands for `TypeError` (the only exception any of this code raises).

`fixed = false` is the code before commit 7cfa348 (defect D5: a keyword-only parameter met while
positional arguments are left over was consumed from the parameter iterator and never looked at again);
for the cache, `fixed = false` is the key `(qualname, class name, varnames)` used before commit
2556fed (defect D6).

No imports: the driver `drv_bind` compiles natively.
-/
namespace SMV.Bind

abbrev Val := Nat
abbrev Name := Nat

/-- `inspect.Parameter.kind`: POSITIONAL_ONLY, POSITIONAL_OR_KEYWORD, VAR_POSITIONAL, KEYWORD_ONLY,
VAR_KEYWORD -/
inductive Kind | po | pk | vp | ko | vk
deriving DecidableEq, Repr, Inhabited

structure Param where
  name : Name
  kind : Kind
  /-- has a default value -/
  dflt : Bool
deriving DecidableEq, Repr, Inhabited

/-- a `dict` with `Name` keys: association list, first occurrence wins -/
abbrev KW := List (Name × Val)

def kwGet : KW → Name → Option Val
  | [], _ => none
  | (k, v) :: rest, n => if k = n then some v else kwGet rest n

/-- `kw.pop(n)` (the dict without key `n`) -/
def kwErase : KW → Name → KW
  | [], _ => []
  | (k, v) :: rest, n => if k = n then kwErase rest n else (k, v) :: kwErase rest n

/-- `kw[n] = v`: replace in place, else append (dict insertion order) -/
def kwSet : KW → Name → Val → KW
  | [], n, v => [(n, v)]
  | (k, w) :: rest, n, v => if k = n then (k, v) :: rest else (k, w) :: kwSet rest n v

def keys (kw : KW) : List Name := kw.map (·.1)

/-- what a parameter holds: one value, the `*args` tuple, the `**kwargs` dict, or (in a callee's
frame only) the parameter's own default -/
inductive ArgVal
  | one (v : Val) | tuple (vs : List Val) | dict (kw : KW) | dflt
deriving DecidableEq, Repr, Inhabited

/-- `BoundArguments.arguments` (insertion ordered); also the callee's frame -/
abbrev Arguments := List (Name × ArgVal)
abbrev Frame := Arguments

def lookup : Arguments → Name → Option ArgVal
  | [], _ => none
  | (k, v) :: rest, n => if k = n then some v else lookup rest n

/-! ## `SignatureAdapter.bind_expected` -/

/-- state after the `while True` loop: `arguments`, what is left of `kwargs`, the parameters still to
be visited (`chain(parameters_ex, parameters)`), `kwargs_param` -/
structure P1 where
  args : Arguments
  kw : KW
  rest : List Param
  vk : Option Param
deriving Repr, Inhabited

/-- the `while True` loop. `none` = the `TypeError` "parameter is positional only, but was passed as a
keyword". `fixed`: the keyword-only parameter is pushed back (`parameters_ex = (param,)`). -/
def phase1 (fixed : Bool) : List Param → List Val → KW → Arguments → Option P1
  | [], _, kw, acc => some ⟨acc, kw, [], none⟩
  | p :: rest, [], kw, acc =>
    if p.kind = .vp then some ⟨acc, kw, rest, none⟩
    else if (kwGet kw p.name).isSome ∧ p.kind = .po then none
    else some ⟨acc, kw, p :: rest, none⟩
  | p :: rest, a :: as, kw, acc =>
    match p.kind with
    | .vk => some ⟨acc, kw, rest, some p⟩
    | .ko => some ⟨acc, kw, if fixed then p :: rest else rest, none⟩
    | .vp => some ⟨acc ++ [(p.name, .tuple (a :: as))], kw, rest, none⟩
    | .pk =>
      match kwGet kw p.name with
      | some v => phase1 fixed rest as (kwErase kw p.name) (acc ++ [(p.name, .one v)])
      | none => phase1 fixed rest as kw (acc ++ [(p.name, .one a)])
    | .po => phase1 fixed rest as kw (acc ++ [(p.name, .one a)])

/-- the `for param in chain(parameters_ex, parameters)` loop -/
def phase2 : List Param → KW → Arguments → Option Param → Arguments × KW × Option Param
  | [], kw, acc, vk => (acc, kw, vk)
  | p :: rest, kw, acc, vk =>
    match p.kind with
    | .vk => phase2 rest kw acc (some p)
    | .vp => phase2 rest kw acc vk
    | _ =>
      match kwGet kw p.name with
      | some v => phase2 rest (kwErase kw p.name) (acc ++ [(p.name, .one v)]) vk
      | none => phase2 rest kw acc vk

/-- second loop and the trailing `if kwargs: if kwargs_param is not None: arguments[name] = kwargs` -/
def finalize (ps : List Param) (kw : KW) (acc : Arguments) (vk : Option Param) : Arguments :=
  let r := phase2 ps kw acc vk
  match r.2.2 with
  | some p => if r.2.1.isEmpty then r.1 else r.1 ++ [(p.name, .dict r.2.1)]
  | none => r.1

def bindExpected (fixed : Bool) (sig : List Param) (args : List Val) (kw : KW) : Option Arguments :=
  match phase1 fixed sig args kw [] with
  | none => none
  | some r => some (finalize r.rest r.kw r.args r.vk)

/-! ## `inspect.BoundArguments.args` / `.kwargs` (modelled external) -/

/-- values an entry contributes to `ba.args`: `args.append(arg)` / `args.extend(arg)` -/
def ArgVal.vals : ArgVal → List Val
  | .one v => [v]
  | .tuple vs => vs
  | _ => []

/-- entries an argument contributes to `ba.kwargs`: `kwargs[name] = arg` / `kwargs.update(arg)`.
(A `*args` tuple stored under its name cannot be written as a `Val`; it does not arise: `ba.kwargs`
reaches a `*args` entry only after a missing positional parameter, and `bind_expected` fills `*args`
only after all of them — lemmas `Closed.of_bind`, `entry_unreached` in `SMV/Lemmas/BinderCorner.lean`, `Binder.lean`.) -/
def ArgVal.items (n : Name) : ArgVal → KW
  | .one v => [(n, v)]
  | .dict d => d
  | _ => []

/-- `BoundArguments.args`: stop at the first keyword-only / `**kwargs` parameter or missing entry -/
def baArgs : List Param → Arguments → List Val
  | [], _ => []
  | p :: ps, A =>
    if p.kind = .ko ∨ p.kind = .vk then []
    else match lookup A p.name with
      | none => []
      | some a => a.vals ++ baArgs ps A

/-- `BoundArguments.kwargs`; the flag is `kwargs_started`. Keys are inserted at most once
(`baKwargs_nodup`), so dict insertion is list append. -/
def baKwargs : List Param → Arguments → Bool → KW
  | [], _, _ => []
  | p :: ps, A, started =>
    if started = true ∨ p.kind = .ko ∨ p.kind = .vk then
      (match lookup A p.name with
       | none => []
       | some a => a.items p.name) ++ baKwargs ps A true
    else if (lookup A p.name).isSome then baKwargs ps A false
    else baKwargs ps A true

/-! ## The Python call protocol (modelled external) -/

def consO (e : Name × ArgVal) : Option Frame → Option Frame
  | none => none
  | some f => some (e :: f)

/-- a parameter the caller did not supply: its default, or `TypeError: missing … argument` -/
def absent (p : Param) (k : Option Frame) : Option Frame :=
  if p.dflt then consO (p.name, .dflt) k else none

/-- a parameter that can be given by keyword, once the positional arguments are used up -/
def byKeyword (p : Param) (kw : KW) (k : KW → Option Frame) : Option Frame :=
  match kwGet kw p.name with
  | some v => consO (p.name, .one v) (k (kwErase kw p.name))
  | none => absent p (k kw)

/-- `f(*as, **kw)` for a function `f` with signature `sig`: the callee's frame, or `none` = `TypeError`
(too many positional arguments / multiple values / missing argument / unexpected keyword). -/
def pyCall : List Param → List Val → KW → Option Frame
  | [], as, kw => if as.isEmpty ∧ kw.isEmpty then some [] else none
  | p :: ps, as, kw =>
    match p.kind with
    | .po =>
      match as with
      | a :: as' => consO (p.name, .one a) (pyCall ps as' kw)
      | [] => absent p (pyCall ps [] kw)
    | .pk =>
      match as with
      | a :: as' =>
        if (kwGet kw p.name).isSome then none else consO (p.name, .one a) (pyCall ps as' kw)
      | [] => byKeyword p kw (pyCall ps [])
    | .vp => consO (p.name, .tuple as) (pyCall ps [] kw)
    | .ko =>
      match as with
      | _ :: _ => none
      | [] => byKeyword p kw (pyCall ps [])
    | .vk =>
      match as with
      | _ :: _ => none
      | [] => consO (p.name, .dict kw) (pyCall ps [] [])

/-- `callable_method(f)(*args, **kw)` when the adapter in use was built for the signature `adapter`
and `f`'s own signature is `own` (they differ only when the cache hands out a foreign adapter) -/
def invokeWith (fixed : Bool) (adapter own : List Param) (args : List Val) (kw : KW) : Option Frame :=
  match bindExpected fixed adapter args kw with
  | none => none
  | some A => pyCall own (baArgs adapter A) (baKwargs adapter A false)

/-- `callable_method(f)(*args, **kw)`: what `f` finds in its parameters, or `none` = `TypeError` -/
def invoke (fixed : Bool) (sig : List Param) (args : List Val) (kw : KW) : Option Frame :=
  invokeWith fixed sig sig args kw

/-! ## Specification (written from the property text; does not refer to the code above) -/

/-- a keyword is consumed iff a positional-or-keyword or keyword-only parameter bears its name -/
def consumed (sig : List Param) (n : Name) : Bool :=
  sig.any fun p => p.name == n && (p.kind == .pk || p.kind == .ko)

def dfltOr (p : Param) : Option ArgVal := if p.dflt then some .dflt else none

/-- what the parameter `p`, `i`-th of `sig`, must receive; `none` = a legitimate "missing argument".
* positional-only: the `i`-th positional argument, else its default;
* positional-or-keyword: the same-named keyword, else the `i`-th positional argument, else its default;
* `*args`: the positional arguments from `i` on (all positional parameters precede it);
* keyword-only: the same-named keyword, else its default;
* `**kwargs`: every keyword not consumed by a named parameter, in the caller's order. -/
def specParam (sig : List Param) (args : List Val) (kw : KW) (i : Nat) (p : Param) : Option ArgVal :=
  match p.kind with
  | .po =>
    match args[i]? with
    | some a => some (.one a)
    | none => dfltOr p
  | .pk =>
    match kwGet kw p.name with
    | some v => some (.one v)
    | none =>
      match args[i]? with
      | some a => some (.one a)
      | none => dfltOr p
  | .vp => some (.tuple (args.drop i))
  | .ko =>
    match kwGet kw p.name with
    | some v => some (.one v)
    | none => dfltOr p
  | .vk => some (.dict (kw.filter fun e => !consumed sig e.1))

def specFrom (sig : List Param) (args : List Val) (kw : KW) : Nat → List Param → List (Name × Option ArgVal)
  | _, [] => []
  | i, p :: ps => (p.name, specParam sig args kw i p) :: specFrom sig args kw (i + 1) ps

def specFrame (sig : List Param) (args : List Val) (kw : KW) : List (Name × Option ArgVal) :=
  specFrom sig args kw 0 sig

/-- all parameters have a value → the frame; some required parameter has none → `TypeError` -/
def collect : List (Name × Option ArgVal) → Option Frame
  | [] => some []
  | (n, some v) :: rest => consO (n, v) (collect rest)
  | (_, none) :: _ => none

def specCall (sig : List Param) (args : List Val) (kw : KW) : Option Frame :=
  collect (specFrame sig args kw)

/-- The one corner where only CPython's own behaviour is demanded: a positional-only parameter that no
positional argument reaches while a keyword bears its name. (`tests/test_signature.py` pins the
`TypeError` for it.) -/
def cornerFrom (args : List Val) (kw : KW) : Nat → List Param → Bool
  | _, [] => false
  | i, p :: ps =>
    (p.kind == .po && decide (args.length ≤ i) && (kwGet kw p.name).isSome) || cornerFrom args kw (i + 1) ps

def corner (sig : List Param) (args : List Val) (kw : KW) : Bool := cornerFrom args kw 0 sig

/-- Python's rules for a `def` header: kinds in the order po* pk* vp? ko* vk? … -/
def kindOk : Kind → Kind → Bool
  | .po, _ => true
  | .pk, .po => false
  | .pk, _ => true
  | .vp, .ko => true
  | .vp, .vk => true
  | .vp, _ => false
  | .ko, .ko => true
  | .ko, .vk => true
  | .ko, _ => false
  | .vk, _ => false

/-- … and distinct parameter names -/
def wfB (sig : List Param) : Bool :=
  decide ((sig.map (·.name)).Nodup) && decide ((sig.map (·.kind)).Pairwise (fun a b => kindOk a b = true))

/-! ## Reserved names: `Event.__call__` and `EventData.extended_kwargs` -/

/-- ids of `event_data, machine, event, model, transition, state, source, target` -/
def reserved : List Name := [0, 1, 2, 3, 4, 5, 6, 7]

/-- `{k: v for k, v in kwargs.items() if k not in _event_data_kwargs}` -/
def filterReserved (kw : KW) : KW := kw.filter fun e => !reserved.contains e.1

/-- `kwargs = trigger_data.kwargs.copy(); kwargs["event_data"] = self; …` in the order of the code;
`b r` is the current event's value for the reserved name `r` -/
def extendedKwargs (tk : KW) (b : Name → Val) : KW :=
  reserved.foldl (fun kw r => kwSet kw r (b r)) tk

/-- keywords a callback is called with when the user sent `kw` and the current event's built-in
values are `b` -/
def eventKwargs (kw : KW) (b : Name → Val) : KW := extendedKwargs (filterReserved kw) b

/-- the full path `sm.send(event, *args, **kw)` → callback with signature `sig` -/
def invokeEvent (fixed : Bool) (sig : List Param) (args : List Val) (kw : KW) (b : Name → Val) :
    Option Frame :=
  invoke fixed sig args (eventKwargs kw b)

/-! ## The signature cache (`signature_cache`) -/

/-- a callable as the cache sees it: its identity (the function object; a bound method is keyed by
`(__func__, True)`), its qualified name (+ class name + varnames, the old key), and its signature -/
structure Callable where
  ident : Nat
  qual : Nat
  sig : List Param
deriving Repr, Inhabited

abbrev Cache := List (Nat × List Param)

def cacheGet : Cache → Nat → Option (List Param)
  | [], _ => none
  | (k, v) :: rest, n => if k = n then some v else cacheGet rest n

def cacheKey (fixed : Bool) (c : Callable) : Nat := if fixed then c.ident else c.qual

/-- `SignatureAdapter.from_callable` through the cache: the adapter used for `c`, and the new cache -/
def fromCallable (fixed : Bool) (cache : Cache) (c : Callable) : List Param × Cache :=
  match cacheGet cache (cacheKey fixed c) with
  | some s => (s, cache)
  | none => (c.sig, (cacheKey fixed c, c.sig) :: cache)

/-- the cache after adapters were requested for `hist` (oldest first) -/
def warm (fixed : Bool) : Cache → List Callable → Cache
  | cache, [] => cache
  | cache, c :: cs => warm fixed (fromCallable fixed cache c).2 cs

/-- binding a call to `c` after the process has already wrapped the callables `hist` -/
def invokeCached (fixed : Bool) (hist : List Callable) (c : Callable) (args : List Val) (kw : KW) :
    Option Frame :=
  invokeWith true (fromCallable fixed (warm fixed [] hist) c).1 c.sig args kw

end SMV.Bind
