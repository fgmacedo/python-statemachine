import SMV.Model.Validate
/-!
# Worklist reachability (`visit_connected_states`), for an arbitrary successor function

`goW` is the deque loop of `statemachine/graph.py` statement by statement; the model's structurally
recursive `go` computes the same list (`go_eq_goW`), and `goW.induct` is the induction the proofs
about the loop use.
-/
namespace SMV.Validate

variable (succ : Nat → List Nat)

theorem go_nil (fuel : Nat) (vis : List Nat) : go succ fuel [] vis = vis := by
  cases fuel <;> rfl

theorem go_zero (w vis : List Nat) : go succ 0 w vis = vis := rfl

theorem go_skip (fuel : Nat) {x : Nat} (w : List Nat) {vis : List Nat} (h : x ∈ vis) :
    go succ fuel (x :: w) vis = go succ fuel w vis := by
  cases fuel <;> simp [go, List.dropWhile, h]

theorem go_visit (f : Nat) {x : Nat} (w : List Nat) {vis : List Nat} (h : x ∉ vis) :
    go succ (f + 1) (x :: w) vis = go succ f (w ++ succ x) (x :: vis) := by
  simp [go, List.dropWhile, h]

def goW : Nat → List Nat → List Nat → List Nat
  | _, [], vis => vis
  | fuel, s :: w, vis =>
    if s ∈ vis then goW fuel w vis
    else match fuel with
      | 0 => vis
      | f + 1 => goW f (w ++ succ s) (s :: vis)
termination_by fuel w => (fuel, w.length)
decreasing_by
  · exact Prod.Lex.right _ (Nat.lt_succ_self _)
  · exact Prod.Lex.left _ _ (Nat.lt_succ_self _)

theorem go_eq_goW (fuel : Nat) (w vis : List Nat) : go succ fuel w vis = goW succ fuel w vis := by
  induction fuel, w, vis using goW.induct succ with
  | case1 fuel vis => rw [goW.eq_def, go_nil]
  | case2 fuel s w vis hs ih => rw [goW.eq_def, go_skip succ fuel w hs, ih]; simp only [hs, if_true]
  | case3 s w vis hs => rw [goW.eq_def, go_zero]; simp only [hs, if_false]
  | case4 s w vis hs f ih => rw [goW.eq_def, go_visit succ f w hs, ih]; simp only [hs, if_false]

/-- the run from `(w, vis)` ends because the deque is empty, not because the fuel is spent -/
inductive Done : Nat → List Nat → List Nat → Prop
  | nil {fuel vis} : Done fuel [] vis
  | skip {fuel s w vis} : s ∈ vis → Done fuel w vis → Done fuel (s :: w) vis
  | visit {f s w vis} : s ∉ vis → Done f (w ++ succ s) (s :: vis) → Done (f + 1) (s :: w) vis

/-- such a run returns `vis`, `w`, the successors of everything it visited, and nothing outside a `succ`-closed set
that contains `vis` and `w` -/
theorem go_of_done {fuel : Nat} {w vis : List Nat} (hd : Done succ fuel w vis) :
    (∀ x ∈ vis, x ∈ go succ fuel w vis) ∧ (∀ x ∈ w, x ∈ go succ fuel w vis) ∧
    (∀ a ∈ go succ fuel w vis, a ∈ vis ∨ ∀ b ∈ succ a, b ∈ go succ fuel w vis) ∧
    ∀ P : Nat → Prop, (∀ a, P a → ∀ b ∈ succ a, P b) → (∀ x ∈ vis, P x) → (∀ x ∈ w, P x) →
      ∀ x ∈ go succ fuel w vis, P x := by
  induction hd with
  | nil => rw [go_nil]; exact ⟨fun _ h => h, List.forall_mem_nil _, fun _ => .inl, fun _ _ hv _ => hv⟩
  | @skip fuel s w vis hs _ ih =>
    rw [go_skip succ fuel w hs]
    obtain ⟨hv, hw, hcl, hleast⟩ := ih
    exact ⟨hv, List.forall_mem_cons.2 ⟨hv s hs, hw⟩, hcl,
      fun P hP hPv hPw => hleast P hP hPv (List.forall_mem_cons.1 hPw).2⟩
  | @visit f s w vis hs _ ih =>
    rw [go_visit succ f w hs]
    obtain ⟨hv, hw, hcl, hleast⟩ := ih
    obtain ⟨hs', hv⟩ := List.forall_mem_cons.1 hv
    obtain ⟨hw, hsucc⟩ := List.forall_mem_append.1 hw
    refine ⟨hv, List.forall_mem_cons.2 ⟨hs', hw⟩, fun a ha => ?_, fun P hP hPv hPw => ?_⟩
    · rcases hcl a ha with ha | ha
      · rcases List.mem_cons.mp ha with rfl | ha
        · exact .inr hsucc
        · exact .inl ha
      · exact .inr ha
    · obtain ⟨hPs, hPw⟩ := List.forall_mem_cons.1 hPw
      exact hleast P hP (List.forall_mem_cons.2 ⟨hPs, hPv⟩) (List.forall_mem_append.2 ⟨hPw, hP s hPs⟩)

/-- pigeonhole: the visited list is duplicate-free and inside `U`, hence never longer than `U`; so a fuel of
`U.length - vis.length` new visits is never exhausted. -/
theorem goW_done (U : List Nat) (hU : ∀ a, ∀ b ∈ succ a, b ∈ U) (fuel : Nat) (w vis : List Nat)
    (hnd : vis.Nodup) (hv : ∀ x ∈ vis, x ∈ U) (hw : ∀ x ∈ w, x ∈ U)
    (hlen : U.length ≤ fuel + vis.length) : Done succ fuel w vis := by
  induction fuel, w, vis using goW.induct succ with
  | case1 fuel vis => exact .nil
  | case2 fuel s w vis hs ih => exact .skip hs (ih hnd hv (List.forall_mem_cons.1 hw).2 hlen)
  | case3 s w vis hs =>
    have := (List.nodup_cons.2 ⟨hs, hnd⟩).length_le_of_subset
      (List.forall_mem_cons.2 ⟨(List.forall_mem_cons.1 hw).1, hv⟩)
    simp only [List.length_cons] at this
    omega
  | case4 s w vis hs f ih =>
    obtain ⟨hsU, hw⟩ := List.forall_mem_cons.1 hw
    exact .visit hs (ih (List.nodup_cons.2 ⟨hs, hnd⟩) (List.forall_mem_cons.2 ⟨hsU, hv⟩)
      (List.forall_mem_append.2 ⟨hw, hU s⟩) (by simp only [List.length_cons]; omega))

theorem go_least_closed (U : List Nat) (hU : ∀ a, ∀ b ∈ succ a, b ∈ U) (s : Nat) (hs : s ∈ U)
    (fuel : Nat) (hf : U.length ≤ fuel) :
    s ∈ go succ fuel [s] [] ∧ (∀ a ∈ go succ fuel [s] [], ∀ b ∈ succ a, b ∈ go succ fuel [s] []) ∧
    ∀ P : Nat → Prop, P s → (∀ a, P a → ∀ b ∈ succ a, P b) → ∀ t ∈ go succ fuel [s] [], P t := by
  obtain ⟨_, hw, hcl, hleast⟩ := go_of_done succ (goW_done succ U hU fuel [s] [] List.nodup_nil
    (List.forall_mem_nil _) (List.forall_mem_singleton.2 hs) hf)
  exact ⟨hw s List.mem_cons_self, fun a ha => (hcl a ha).resolve_left List.not_mem_nil,
    fun P hs hP => hleast P hP (List.forall_mem_nil _) (List.forall_mem_singleton.2 hs)⟩

end SMV.Validate
