import SMV.Lemmas.ExprEval
/-!
# Lemmas for C08: names resolved to providers, guard lists, instantiation

The closure tree over provider slots (`subst`) evaluates like the declared expression in the environment where a name is
worth the conjunction of its providers, every read of a name replaced by the slots read for it (`evalLib_subst`). The
guard loop, evaluated as Python evaluates each entry, is decided by the first entry that does not pass (`allPy_val`).
Instantiation one declared entry at a time: `construct_cons`.
-/
namespace SMV.GExpr

theorem andAll_falsy {ρ : Env} {s : Nat} (h : truthy (ρ s) = false) (ss : List Nat) :
    andAll ρ (s :: ss) = ρ s ∧ provReads ρ (s :: ss) = [s] := by
  cases ss <;> simp [andAll, provReads, h]

theorem evalLib_foldl_and (S : Sem) (ρ : Env) (re : Bool) (ss : List Nat) :
    ∀ (a : E) (s : Nat) (pre : List (Nat × Bool)), evalLib S ρ re a = ⟨some (ρ s), pre ++ [(s, re)]⟩ →
      evalLib S ρ re (ss.foldl (fun acc t => .and acc (.name t)) a) =
        ⟨some (andAll ρ (s :: ss)), pre ++ (provReads ρ (s :: ss)).map (·, re)⟩ := by
  induction ss with
  | nil => intro a s pre h; exact h
  | cons t ss ih =>
    intro a s pre h
    cases ht : truthy (ρ s) with
    | true =>
      have := ih (.and a (.name t)) t (pre ++ [(s, re)]) (by simp [evalLib, h, ht])
      simpa [andAll, provReads, ht] using this
    | false =>
      have := ih (.and a (.name t)) s pre (by simp [evalLib, h, ht])
      simpa [andAll_falsy ht] using this

theorem evalLib_provExpr (S : Sem) (ρ : Env) (re : Bool) (ps : List Nat) :
    evalLib S ρ re (provExpr ps) = ⟨some (andAll ρ ps), (provReads ρ ps).map (·, re)⟩ := by
  cases ps with
  | nil => rfl
  | cons s ss => exact evalLib_foldl_and S ρ re ss (.name s) s [] rfl

/-- a read of name `n` becomes the reads of its providers' slots -/
def expand (prov : Nat → List Nat) (ρ : Env) (l : List (Nat × Bool)) : List (Nat × Bool) :=
  l.flatMap (fun x => (provReads ρ (prov x.1)).map (·, x.2))

theorem expand_append (prov : Nat → List Nat) (ρ : Env) (a b : List (Nat × Bool)) :
    expand prov ρ (a ++ b) = expand prov ρ a ++ expand prov ρ b := by
  simp [expand]

@[simp] theorem expand_nil (prov : Nat → List Nat) (ρ : Env) : expand prov ρ [] = [] := rfl

theorem firstReads_expand (prov : Nat → List Nat) (ρ : Env) (l : List (Nat × Bool)) :
    firstReads (expand prov ρ l) = (firstReads l).flatMap (fun n => provReads ρ (prov n)) := by
  induction l with
  | nil => rfl
  | cons x l ih =>
    obtain ⟨n, b⟩ := x
    have : expand prov ρ ((n, b) :: l) = (provReads ρ (prov n)).map (·, b) ++ expand prov ρ l := rfl
    rw [this, firstReads_append, ih]
    cases b
    · rw [firstReads_map_false]; rfl
    · rw [firstReads_map_true]; rfl

mutual
/-- the case analysis is that of `evalLib_flag_py`, clause by clause of `evalLib`; what is carried along here is the
reads themselves, `expand`ed (a homomorphism for `++`, like `firstReads` there) -/
theorem evalLib_subst (S : Sem) (prov : Nat → List Nat) (ρ : Env) (re : Bool) (e : E) :
    (evalLib S ρ re (subst prov e)).val = (evalLib S (envOf prov ρ) re e).val ∧
    (evalLib S ρ re (subst prov e)).reads = expand prov ρ (evalLib S (envOf prov ρ) re e).reads := by
  cases e with
  | name n => simp [subst, evalLib, evalLib_provExpr, envOf, expand]
  | const v => exact ⟨rfl, rfl⟩
  | not a =>
    have := evalLib_subst S prov ρ re a
    simp only [subst, evalLib, this]
    trivial
  | and a b =>
    have ha := evalLib_subst S prov ρ re a
    have hb := evalLib_subst S prov ρ re b
    simp only [subst, evalLib, ha.1]
    split
    · exact ha
    · split
      · exact ⟨hb.1, by rw [expand_append, ha.2, hb.2]⟩
      · exact ha
  | or a b =>
    have ha := evalLib_subst S prov ρ re a
    have hb := evalLib_subst S prov ρ re b
    simp only [subst, evalLib, ha.1]
    split
    · exact ha
    · split
      · exact ha
      · exact ⟨hb.1, by rw [expand_append, ha.2, hb.2]⟩
  | cmp first c =>
    have hf := evalLib_subst S prov ρ re first
    simp only [subst, evalLib, hf.1]
    split
    · exact hf
    next lv _ =>
      have hc := chainLib_subst S prov ρ re c lv
      exact ⟨hc.1, by rw [expand_append, hf.2, hc.2]⟩
theorem chainLib_subst (S : Sem) (prov : Nat → List Nat) (ρ : Env) (re : Bool) (c : Chain) (lv : V) :
    (chainLib S ρ re lv (substChain prov c)).val = (chainLib S (envOf prov ρ) re lv c).val ∧
    (chainLib S ρ re lv (substChain prov c)).reads =
      expand prov ρ (chainLib S (envOf prov ρ) re lv c).reads := by
  cases c with
  | last op r =>
    have h := evalLib_subst S prov ρ re r
    simp only [substChain, chainLib, h.1]
    split
    · exact h
    · exact ⟨rfl, h.2⟩
  | more op r c =>
    have h := evalLib_subst S prov ρ re r
    have h2 := evalLib_subst S prov ρ true r
    simp only [substChain, chainLib, h.1]
    split
    · exact h
    · split
      · exact ⟨rfl, h.2⟩
      · exact ⟨rfl, h.2⟩
      · rw [h2.1]
        split
        · exact ⟨rfl, by rw [expand_append, h.2, h2.2]⟩
        next rv2 _ =>
          have ih := chainLib_subst S prov ρ re c rv2
          exact ⟨ih.1, by rw [expand_append, expand_append, h.2, h2.2, ih.2]⟩
end

theorem all_lib_py (S : Sem) (ρ : Env) (gs : List Guard) :
    (allLib S ρ gs).val = (allPy S ρ gs).val ∧
    firstReads (allLib S ρ gs).reads = (allPy S ρ gs).reads := by
  induction gs with
  | nil => exact ⟨rfl, rfl⟩
  | cons g gs ih =>
    have h := eval_lib_py S ρ g.e
    simp only [allLib, allPy, h.1]
    split
    · exact ⟨rfl, h.2⟩
    · split
      · exact ⟨ih.1, by rw [firstReads_append, h.2, ih.2]⟩
      · exact ⟨rfl, h.2⟩

theorem allLib_subst (S : Sem) (prov : Nat → List Nat) (ρ : Env) (gs : List Guard) :
    (allLib S ρ (gs.map (fun g => ⟨subst prov g.e, g.expected⟩))).val =
      (allLib S (envOf prov ρ) gs).val ∧
    (allLib S ρ (gs.map (fun g => ⟨subst prov g.e, g.expected⟩))).reads =
      expand prov ρ (allLib S (envOf prov ρ) gs).reads := by
  induction gs with
  | nil => exact ⟨rfl, rfl⟩
  | cons g gs ih =>
    have h := evalLib_subst S prov ρ false g.e
    simp only [List.map_cons, allLib, h.1]
    split
    · exact ⟨rfl, h.2⟩
    · split
      · exact ⟨ih.1, by rw [expand_append, h.2, ih.2]⟩
      · exact ⟨rfl, h.2⟩

theorem allPy_cons (S : Sem) (ρ : Env) (g : Guard) (gs : List Guard) :
    allPy S ρ (g :: gs) =
      if passes S ρ g then ⟨(allPy S ρ gs).val, (evalPy S ρ g.e).reads ++ (allPy S ρ gs).reads⟩
      else ⟨(evalPy S ρ g.e).val.map fun _ => false, (evalPy S ρ g.e).reads⟩ := by
  simp only [allPy, passes]
  split <;> simp [*]

theorem allPy_val (S : Sem) (ρ : Env) (gs : List Guard) :
    (allPy S ρ gs).val =
      match gs.find? (fun g => !passes S ρ g) with
      | none => some true
      | some g => (evalPy S ρ g.e).val.map fun _ => false := by
  induction gs with
  | nil => rfl
  | cons g gs ih =>
    rw [allPy_cons, List.find?_cons]
    cases passes S ρ g <;> simp [ih]

theorem allPy_reads (S : Sem) (ρ : Env) (gs : List Guard) :
    (allPy S ρ gs).reads = (untilFail S ρ gs).flatMap (fun g => (evalPy S ρ g.e).reads) := by
  induction gs with
  | nil => rfl
  | cons g gs ih =>
    rw [allPy_cons, untilFail]
    cases passes S ρ g <;> simp [ih]

theorem allPy_true_iff (S : Sem) (ρ : Env) (gs : List Guard) :
    (allPy S ρ gs).val = some true ↔ ∀ g ∈ gs, passes S ρ g = true := by
  induction gs with
  | nil => simp [allPy]
  | cons g gs ih =>
    rw [allPy_cons]
    cases h : passes S ρ g <;> simp [h, ih]

theorem opposite_iff (S : Sem) (ρ : Env) (g : Guard) :
    (evalPy S ρ g.e).val.map truthy = some (!g.expected) ↔
      passes S ρ g = false ∧ ((evalPy S ρ g.e).val.map fun _ => false) = some false := by
  simp only [passes]
  cases (evalPy S ρ g.e).val with
  | none => simp
  | some v => cases g.expected <;> simp

theorem allPy_false_iff (S : Sem) (ρ : Env) (gs : List Guard) :
    (allPy S ρ gs).val = some false ↔
      ∃ pre g post, gs = pre ++ g :: post ∧ (∀ p ∈ pre, passes S ρ p = true) ∧
        (evalPy S ρ g.e).val.map truthy = some (!g.expected) := by
  rw [allPy_val]
  constructor
  · intro h
    split at h
    · cases h
    next g hg =>
      obtain ⟨hp, pre, post, rfl, hpre⟩ := List.find?_eq_some_iff_append.mp hg
      exact ⟨pre, g, post, rfl, by simpa using hpre, (opposite_iff S ρ g).mpr ⟨by simpa using hp, h⟩⟩
  · rintro ⟨pre, g, post, rfl, hpre, hg⟩
    obtain ⟨hp, hv⟩ := (opposite_iff S ρ g).mp hg
    rw [List.find?_eq_some_iff_append.mpr ⟨by simp [hp], pre, post, rfl, by simpa using hpre⟩]
    exact hv

theorem unknowns_isEmpty_iff (prov : Nat → List Nat) (e : E) :
    (unknowns prov e).isEmpty = true ↔ ∀ n ∈ names e, prov n ≠ [] := by
  simp only [unknowns, List.isEmpty_iff, List.filter_eq_nil_iff, ne_eq]

/-- an entry that makes instantiation fail -/
def badEntry (prov : Nat → List Nat) (en : Src × Bool) : Prop :=
  en.1 = .unparsable ∨ ∃ e, en.1 = .parsed e ∧ ∃ n ∈ names e, prov n = []

theorem badEntry_parsed (prov : Nat → List Nat) (e : E) (x : Bool) :
    badEntry prov (.parsed e, x) ↔ (unknowns prov e).isEmpty = false := by
  simp only [unknowns, List.isEmpty_eq_false_iff_exists_mem, List.mem_filter, List.isEmpty_iff]
  constructor
  · rintro (h | ⟨_, h, hn⟩)
    · cases h
    · cases h; exact hn
  · exact fun h => .inr ⟨e, rfl, h⟩

/-- When a name is unknown `Listeners.build` goes on and `check` raises afterwards, so a later parse failure raises
first: the verdict is the same. -/
theorem construct_cons (prov : Nat → List Nat) (src : Src) (x : Bool) (ens : List (Src × Bool)) :
    construct prov ((src, x) :: ens) =
      match src, construct prov ens with
      | .parsed e, .ok gs =>
        if (unknowns prov e).isEmpty then .ok (⟨subst prov e, x⟩ :: gs) else .invalidDefinition
      | _, _ => .invalidDefinition := by
  cases src with
  | unparsable => rfl
  | parsed e =>
    simp only [construct, buildAll, build]
    cases buildAll prov ens with
    | none => rfl
    | some regs =>
      cases h : (unknowns prov e).isEmpty <;> cases hc : checkAll regs <;> simp [checkAll, hc, h]

theorem construct_spec (prov : Nat → List Nat) (entries : List (Src × Bool)) :
    (construct prov entries = .invalidDefinition ∧ ∃ en ∈ entries, badEntry prov en) ∨
    (construct prov entries =
        .ok ((sourceGuards entries).map (fun g => ⟨subst prov g.e, g.expected⟩)) ∧
      ∀ en ∈ entries, ¬ badEntry prov en) := by
  induction entries with
  | nil => exact .inr ⟨rfl, List.forall_mem_nil _⟩
  | cons en ens ih =>
    obtain ⟨src, x⟩ := en
    rw [construct_cons]
    cases src with
    | unparsable => exact .inl ⟨rfl, _, List.mem_cons_self, .inl rfl⟩
    | parsed e =>
      rcases ih with ⟨hinv, en', hmem, hbad⟩ | ⟨hok, hall⟩
      · exact .inl ⟨by rw [hinv], en', List.mem_cons_of_mem _ hmem, hbad⟩
      · rw [hok]; dsimp only
        cases hk : (unknowns prov e).isEmpty with
        | false => exact .inl ⟨rfl, _, List.mem_cons_self, (badEntry_parsed prov e x).mpr hk⟩
        | true =>
          refine .inr ⟨rfl, List.forall_mem_cons.mpr ⟨?_, hall⟩⟩
          rw [badEntry_parsed, hk]; nofun

end SMV.GExpr
