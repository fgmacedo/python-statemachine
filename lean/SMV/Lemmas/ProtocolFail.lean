import SMV.Lemmas.Protocol
/-!
# The drain-election protocol with failing callbacks and cancelled drainers

`Step` (in `SMV.Model.Protocol`) leaves out the failure path; `StepF` adds it on top, without touching the model
the driver executes. A callback of the event in progress raises — or, on the asyncio engine, the draining task is
cancelled at an `await` inside it, which reaches the engine as `CancelledError` raised by the callback — and
`processing_loop` runs `except: self._external_queue.clear(); raise` (`fail`), then its `finally` releases the lock
(`releaseF`); the exception skips the re-check that follows the release. Between the two steps any other sender may
move (threads); among asyncio tasks the pair is never interrupted, a special case of the interleavings considered here.

What survives failures (`reachF_inv`): mutual exclusion, the log as a sequence of complete blocks (`SerialF`, hence
`Balanced`), processing at most once and in enqueue order (`AtMostOnce`). What does not: "exactly once" (cleared
events are dropped) and "nothing stranded" (an event enqueued between the clear and the release waits for the next
send, `failure_path_strands`) — the property excludes the failure path from those.
-/
namespace SMV.Protocol

/-- a state of the protocol with failures: the base state and who is on the failure path -/
structure SF where
  s : S
  /-- sender `i` has cleared the queue after a failing callback and is about to release -/
  failing : Nat → Bool

inductive StepF (fixed atomic : Bool) : SF → SF → Prop
  /-- A step of the base protocol. `hstay`: it does not move a failing sender. Such a sender stands at
  `exiting` like one that saw the queue empty, and `Step.release` would take it to the re-check (`fixed`); the
  exception skips that, so a failing sender moves by `releaseF` only. -/
  | base (x : SF) (s' : S) (h : Step fixed atomic x.s s')
      (hstay : ∀ i, x.failing i = true → s'.pc i = x.s.pc i) : StepF fixed atomic x ⟨s', x.failing⟩
  /-- a callback of `e` raises (or the draining task is cancelled inside it): `except: queue.clear(); raise`. The
  callbacks of `e` are over, `e` is not recorded as processed, and the sender is on its way to the `finally`. -/
  | fail (x : SF) (i : Nat) (e : Ev) (h : x.s.pc i = .processing e) :
      StepF fixed atomic x
        ⟨{ x.s with pc := set x.s.pc i .exiting, queue := [], cur := none, log := x.s.log ++ [.fin e] },
         fun j => if j = i then true else x.failing j⟩
  /-- the `finally` of a failing sender: release the lock and return with the exception, without the re-check -/
  | releaseF (x : SF) (i : Nat) (h : x.s.pc i = .exiting) (hf : x.failing i = true) :
      StepF fixed atomic x
        ⟨{ x.s with pc := set x.s.pc i .idle, lock := false }, fun j => if j = i then false else x.failing j⟩

/-- reachable under some interleaving, failing callbacks included -/
inductive ReachF (fixed atomic : Bool) : SF → Prop
  | init : ReachF fixed atomic ⟨init, fun _ => false⟩
  | step {x x'} : ReachF fixed atomic x → StepF fixed atomic x x' → ReachF fixed atomic x'

theorem mutex_stepF {fixed atomic} {x x' : SF} (hm : Mutex x.s) (hs : StepF fixed atomic x x') : Mutex x'.s := by
  cases hs with
  | base s' h _ => exact mutex_step hm h
  | fail i e h => exact hm.stay rfl rfl (by simp [h, inCS])
  | releaseF i h hf => exact hm.leave rfl (by simp [h, inCS]) rfl (by simp [inCS])

theorem cur_stepF {fixed atomic} {x x' : SF} (hm : Mutex x.s) (hc : CurInv x.s) (hs : StepF fixed atomic x x') :
    CurInv x'.s := by
  cases hs with
  | base s' h _ => exact cur_step hm hc h
  | fail i e h => exact .holder hm rfl (by simp [h, inCS]) rfl
  | releaseF i h hf => exact hc.keep rfl rfl (by simp [h, isProcessing])

def opens : List Mark → Nat
  | [] => 0
  | .beg _ :: l => opens l + 1
  | .fin _ :: l => opens l

def closes : List Mark → Nat
  | [] => 0
  | .beg _ :: l => closes l
  | .fin _ :: l => closes l + 1

theorem opens_append (a b : List Mark) : opens (a ++ b) = opens a + opens b := by
  induction a with
  | nil => simp [opens]
  | cons m a ih =>
    cases m with
    | beg e => rw [List.cons_append, opens, opens, ih, Nat.add_right_comm]
    | fin e => rw [List.cons_append, opens, opens, ih]

theorem closes_append (a b : List Mark) : closes (a ++ b) = closes a + closes b := by
  induction a with
  | nil => simp [closes]
  | cons m a ih =>
    cases m with
    | beg e => rw [List.cons_append, closes, closes, ih]
    | fin e => rw [List.cons_append, closes, closes, ih, Nat.add_right_comm]

/-- As many begin marks as end marks, plus one iff an event is in flight. That an end mark belongs to the event begun
just before it is said by `SerialF`, not by the counts. -/
def Balanced (s : S) : Prop := opens s.log = closes s.log + (if s.cur.isSome then 1 else 0)

/-- `Serial` of the base protocol with the failed events let in: one block per event whose callbacks are over,
normally or not; the processed events are among those, in order. -/
def SerialF (s : S) : Prop :=
  ∃ ended : List Ev, s.processed.Sublist ended ∧ s.log = ended.flatMap block ++ openBlock s.cur

/-- `fail` is the one step that is not a `DStep`: it ends the event in flight like `fin`, but drops the queue and
records nothing as processed -/
theorem serialF_stepF {fixed atomic} {x x' : SF} (hm : Mutex x.s) (hc : CurInv x.s) (h : SerialF x.s)
    (hs : StepF fixed atomic x x') : SerialF x'.s := by
  obtain ⟨l, hp, hl⟩ := h
  cases hs with
  | base s' h' _ => exact (h'.dstep hm hc).blocks (fun e h => h.append (.refl [e])) hp hl
  | fail i e he =>
    exact ⟨l ++ [e], hp.trans (List.sublist_append_left ..), by simp [hl, hc.1 i e he, openBlock, block]⟩
  | releaseF i h' hf => exact ⟨l, hp, hl⟩

theorem opens_blocks (l : List Ev) : opens (l.flatMap block) = closes (l.flatMap block) := by
  induction l with
  | nil => rfl
  | cons e l ih => simp [block, opens, closes, ih]

theorem SerialF.balanced {s : S} (h : SerialF s) : Balanced s := by
  obtain ⟨l, _, hl⟩ := h
  unfold Balanced
  rw [hl, opens_append, closes_append, opens_blocks]
  cases s.cur <;> simp [openBlock, opens, closes]

/-- `Sublist` where `Fifo` has equality: a failure drops events (the cleared queue, the event that failed) -/
def AtMostOnce (s : S) : Prop := (s.processed ++ s.cur.toList ++ s.queue).Sublist s.history

theorem atMostOnce_stepF {fixed atomic} {x x' : SF} (hm : Mutex x.s) (hc : CurInv x.s) (ha : AtMostOnce x.s)
    (hs : StepF fixed atomic x x') : AtMostOnce x'.s := by
  cases hs with
  | base s' h _ => exact (h.dstep hm hc).grow (fun e h => h.append (.refl [e])) ha
  | fail i e h => exact .trans (by simp) ha
  | releaseF i h hf => exact ha

theorem reachF_inv {fixed atomic} {x : SF} (h : ReachF fixed atomic x) :
    Mutex x.s ∧ CurInv x.s ∧ SerialF x.s ∧ AtMostOnce x.s := by
  induction h with
  | init => exact ⟨by simp [Mutex, init, inCS], by simp [CurInv, init], ⟨[], .refl _, rfl⟩, .refl _⟩
  | step _ hs ih =>
    obtain ⟨hm, hc, hb, ha⟩ := ih
    exact ⟨mutex_stepF hm hs, cur_stepF hm hc hs, serialF_stepF hm hc hb hs, atMostOnce_stepF hm hc ha hs⟩

/-- no event is processed twice, whatever fails: if the enqueued events are pairwise distinct (senders tag them),
so are the processed ones -/
theorem processed_nodup {fixed atomic} {x : SF} (h : ReachF fixed atomic x) (hd : x.s.history.Nodup) :
    x.s.processed.Nodup := by
  obtain ⟨_, _, _, ha⟩ := reachF_inv h
  exact hd.sublist (.trans (by simp [List.append_assoc]) ha)

/-- without failing steps the extended system is the base system: every `Reach` state is a `ReachF` state -/
theorem reachF_of_reach {fixed atomic} {s : S} (h : Reach fixed atomic s) : ReachF fixed atomic ⟨s, fun _ => false⟩ := by
  induction h with
  | init => exact .init
  | step _ hs ih => exact .step ih (.base _ _ hs (by intro i hi; simp at hi))

/-- the side condition `hstay` of `StepF.base` for a step that moves sender `i`, who is not failing -/
theorem set_stay {failing : Nat → Bool} {f : Nat → Pc} {i : Nat} {p : Pc} (hi : failing i = false) :
    ∀ j, failing j = true → set f i p j = f j := by
  intro j hj
  have : j ≠ i := by rintro rfl; simp [hi] at hj
  simp [set, this]

/-- non-vacuity: a callback fails while another sender's event is queued behind it; that event is dropped -/
example : ∃ x, ReachF true false x ∧ x.s.processed = [] ∧ x.s.history.length = 2 ∧ x.s.lock = false ∧ x.s.queue = [] := by
  have r1 := ReachF.step (fixed := true) (atomic := false) .init (.base _ _ (.put _ 0 7 rfl) (set_stay rfl))
  have r2 := r1.step (.base _ _ (.acqOk _ 0 rfl rfl) (set_stay rfl))
  have r3 := r2.step (.base _ _ (.pop _ 0 ⟨0, 7⟩ [] rfl rfl) (set_stay rfl))
  have r4 := r3.step (.base _ _ (.put _ 1 8 rfl) (set_stay rfl))
  have r5 := r4.step (.fail _ 0 ⟨0, 7⟩ rfl)
  have r6 := r5.step (.releaseF _ 0 rfl rfl)
  exact ⟨_, r6, rfl, rfl, rfl, rfl⟩

/-- **The failure path strands an event** (why C06 excludes it): sender 0's callback fails and its `except` clause
clears the queue; before its `finally` releases the lock, sender 1 puts an event and fails to acquire; sender 0
releases without the re-check. Among asyncio tasks the schedule itself cannot occur (`engines/async_.py` has no
`await` between `clear()` and `release()`), so it is the thread reading (`atomic = false`) that speaks of the
library. -/
theorem failure_path_strands (atomic : Bool) :
    ∃ x : SF, ReachF true atomic x ∧ (∀ i, x.s.pc i = .idle) ∧ x.s.lock = false ∧ x.s.queue = [⟨1, 0⟩] := by
  have r0 : ReachF true atomic ⟨init, fun _ => false⟩ := .init
  have r1 := r0.step (.base _ _ (.put init 0 0 rfl) (set_stay rfl))
  have r2 := r1.step (.base _ _ (.acqOk _ 0 rfl rfl) (set_stay rfl))
  have r3 := r2.step (.base _ _ (.pop _ 0 ⟨0, 0⟩ [] rfl rfl) (set_stay rfl))
  have r4 := r3.step (.fail _ 0 ⟨0, 0⟩ rfl)
  have r5 := r4.step (.base _ _ (.put _ 1 0 rfl) (set_stay rfl))
  have r6 := r5.step (.base _ _ (.acqFail _ 1 rfl rfl) (set_stay rfl))
  have r7 := r6.step (.releaseF _ 0 rfl rfl)
  exact ⟨_, r7, fun | 0 => rfl | 1 => rfl | _ + 2 => rfl, rfl, rfl⟩

end SMV.Protocol
