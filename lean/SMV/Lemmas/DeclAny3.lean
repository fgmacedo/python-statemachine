import SMV.Lemmas.DeclFinRel
import SMV.Lemmas.DeclSplice
import SMV.Lemmas.DeclBody
import SMV.Lemmas.DeclStyles
/-!
# `any_partial`: `e = t.from_.any(kw)` ≈ `e = t.from_(s₁, …, sₖ, kw)` after any class body

The metaclass processes the namespace of the body `p` on two stores that differ by `spl` (the
`AnyState` entry versus the explicit entries; `foldl_processAttr_spl`). Defining `e` then expands the
`AnyState` entry at the end of the store on one side and adds the event to the explicit entries in
place on the other, which gives `FinRel` (`finRel_of_inv`), and `FinRel` is kept by what follows.
-/
namespace SMV.Decl

theorem single_real {t : TDef} {k : Name} {tl : Option (List Nat)} (h : t.events = [.real k tl]) :
    noPh t ∧ finalEvents t = [k] :=
  ⟨noPh_of_real fun _ he => ⟨k, tl, List.mem_singleton.mp (h ▸ he)⟩, by rw [finalEvents, h]; rfl⟩

theorem onEventDefined_any (c : Cls) (S B : List TDef) (tA : TDef) (id : Name)
    (hs : c.trans = S ++ tA :: B) (hA : tA.source = .any) (hAe : tA.events = []) :
    let ev : EvRef := .real id (some [S.length])
    let tA' : TDef := { tA with events := [ev] }
    let C : List TDef := (c.states.filter (!·.final)).map fun s => copyFor tA' s.name ev
    onEventDefined c id [S.length] =
      { c with trans := S ++ tA' :: (B ++ C), err := c.err || C.any badInternal } := by
  intro ev tA' C
  -- the event is added to `tA` in place; entry `S.length` is then `tA'`, which is expanded
  have h1 : (S ++ tA :: B).modify S.length (fun t => { t with events := addEv t.events ev }) = S ++ tA' :: B := by
    rw [modify_at_length, hAe]; rfl
  have hg : (S ++ tA' :: B)[S.length]? = some tA' := by
    rw [List.getElem?_append_right (Nat.le_refl _), Nat.sub_self]; rfl
  show expandAny ev c.states { c with trans := c.trans.modify S.length _ } S.length = _
  rw [hs, h1, expandAny_any (t := tA') hg hA]
  simp only [push, List.append_assoc, List.cons_append]
  rfl

theorem onEventDefined_block (c : Cls) (S X B : List TDef) (id : Name) (hs : c.trans = S ++ X ++ B)
    (hX : ∀ t ∈ X, t.source ≠ .any) :
    onEventDefined c id (List.range' S.length X.length) = { c with trans := S ++ X.map (fun t =>
      { t with events := addEv t.events (.real id (some (List.range' S.length X.length))) }) ++ B } := by
  simp only [onEventDefined, hs, foldl_modify_block]
  apply foldl_expandAny_noop
  intro i hi t ht
  simp only [List.mem_range'_1] at hi
  simp only [List.append_assoc] at ht
  rw [List.getElem?_append_right hi.1, List.getElem?_append_left
    (by rw [List.length_map]; exact Nat.sub_lt_left_of_lt_add hi.1 hi.2)] at ht
  obtain ⟨x, hx, rfl⟩ := List.mem_map.mp (List.mem_of_getElem? ht)
  exact hX x hx

theorem finRel_of_inv {n : Nat} {tA : TDef} {names : List Name} {c : Cls} (hInv : Inv n tA names c)
    (hA : tA.source = .any) (hAe : tA.events = []) (hAi : tA.internal = false) (e : Name) (he : e ∉ names) :
    let X := (c.states.filter (!·.final)).map (fun s => ({ tA with source := .st s.name } : TDef))
    FinRel e (processAttr c (e, .tl [n])) (processAttr (spl n X c) (e, .tl (List.range' n X.length))) := by
  intro X
  -- `c.trans = S ++ tA :: B` with `n` as `S.length`, the position `onEventDefined_any`, `_block` speak of
  have hs := split_at hInv.atn
  have hlen : (c.trans.take n).length = n := List.length_take_of_le (Nat.le_of_lt hInv.lt)
  generalize hS : c.trans.take n = S at hs hlen
  generalize hB : c.trans.drop (n + 1) = B at hs
  subst hlen
  let ev₁ : EvRef := .real e (some [S.length])
  let ev₂ : EvRef := .real e (some (List.range' S.length X.length))
  let tA' : TDef := { tA with events := [ev₁] }
  let C : List TDef := (c.states.filter (!·.final)).map (fun s => copyFor tA' s.name ev₁)
  let X' : List TDef := X.map (fun t => { t with events := addEv t.events ev₂ })
  have hsp : (spl S.length X c).trans = S ++ X ++ B := by
    simp only [spl_trans, splice, hS, hB]
  have hCerr : C.any badInternal = false := by
    simp [C, badInternal, copyFor, tA', hAi]
  have hBprop : ∀ t ∈ B, noPh t ∧ e ∉ finalEvents t := by
    intro t ht
    obtain ⟨⟨k, idxs, hk⟩, _⟩ := hInv.tail t (hB ▸ ht)
    have hok := hInv.ok t (List.mem_of_mem_drop (hB ▸ ht)) (.real k (some idxs)) (hk ▸ List.mem_singleton_self _)
    obtain ⟨hn, hf⟩ := single_real hk
    exact ⟨hn, fun h => he (List.mem_singleton.mp (hf ▸ h) ▸ hok.1)⟩
  have hCprop : ∀ t ∈ C, noPh t ∧ finalEvents t = [e] :=
    List.forall_mem_map.mpr fun s _ => single_real rfl
  have hXprop : ∀ t ∈ X', noPh t ∧ finalEvents t = [e] :=
    List.forall_mem_map.mpr <| List.forall_mem_map.mpr fun s _ =>
      single_real (show addEv tA.events ev₂ = [ev₂] by rw [hAe]; rfl)
  have hshape : FinRel e { c with trans := S ++ tA' :: (B ++ C), err := c.err || C.any badInternal }
      { spl S.length X c with trans := S ++ X' ++ B } :=
    { states := rfl, events := rfl, pending := rfl
      err := by rw [hCerr, Bool.or_false]; rfl
      shape := ⟨S, tA', B, C, X', rfl, List.append_assoc .., hA, (single_real (t := tA') rfl).1, hBprop, hCprop, hXprop,
        by simp only [C, X', X, List.map_map]; rfl⟩ }
  have hXsrc : ∀ t ∈ X, t.source ≠ .any := List.forall_mem_map.mpr fun _ _ => Src.noConfusion
  show FinRel e (addEvent c (.real e (some [S.length])))
    (addEvent (spl S.length X c) (.real e (some (List.range' S.length X.length))))
  rw [addEvent_real, addEvent_real, EvRef.tl, EvRef.tl, onEventDefined_any c S B tA e hs hA hAe,
    onEventDefined_block _ S X B e hsp hXsrc]
  exact hshape.regEv e

theorem elabClass_assign (p : List Stmt) (e : Name) (T : TExpr) (fs : List SDecl) :
    elabClass {} (p ++ [.assign e T] ++ fs.map .state) =
      updateRefs (fs.foldl addState (processAttr ((evalT (elabBody {} p) T).1.attrs.foldl processAttr
        { (evalT (elabBody {} p) T).1 with attrs := [] }) (e, .tl (evalT (elabBody {} p) T).2))) := by
  show elabMeta (elabBody {} _) = _
  rw [elabBody_append, elabBody_append, states_individually]
  simp only [elabBody, List.foldl_cons, List.foldl_nil, elabStmt, elabMeta, addAttrs, addAttr, List.foldl_append,
    stateAttrs, List.foldl_map]
  rfl

theorem finRel_of_body {G : Src → Prop} (cb : Cls) (hb : BodyInv [] G cb) (hs : cb.states = []) (e t : Name) (kw : Kw)
    (hev : kw.event = []) (hint : kw.internal = false) (hfresh : e ∉ cb.attrs.map (·.1)) :
    let X := (((declared cb.attrs).filter (!·.final)).map (·.name)).map fun s => mkT (.st s) t kw
    FinRel e
      (processAttr (cb.attrs.foldl processAttr { (push cb [mkT .any t kw]).1 with attrs := [] })
        (e, .tl (push cb [mkT .any t kw]).2))
      (processAttr (cb.attrs.foldl processAttr { (push cb X).1 with attrs := [] }) (e, .tl (push cb X).2)) := by
  intro X
  let tA := mkT .any t kw
  let start₁ : Cls := { (push cb [tA]).1 with attrs := [] }
  have hA : tA.source = .any := rfl
  have hev' : ∀ src, (mkT src t kw).events = [] := fun _ => congrArg kwEvents hev
  have hAe : tA.events = [] := hev' _
  have hX : ∀ x ∈ X, x.events = [] ∧ badInternal x = false :=
    List.forall_mem_map.mpr fun s _ => ⟨hev' _, badInternal_mkT _ _ _ hint⟩
  -- the body created no event reference with a transition list, and nothing lies beyond `tA`
  have hInv : Inv cb.trans.length tA (cb.attrs.map (·.1)) start₁ :=
    { atn := List.getElem?_concat_length
      ok := List.forall_mem_append.mpr ⟨fun t' h ev hev' => (hb.plain t' h ev hev').ok,
        List.forall_mem_singleton.mpr fun ev hev' => by rw [hAe] at hev'; cases hev'⟩
      tail := fun t' ht' => by simp [start₁, push] at ht' }
  have hstart₂ : ({ (push cb X).1 with attrs := [] } : Cls) = spl cb.trans.length X start₁ := by
    rw [push_spl cb tA X (badInternal_mkT _ _ _ hint)
      (List.any_eq_false.mpr fun x hx => Bool.not_eq_true _ ▸ (hX x hx).2)]
    rfl
  have hXeq : (((cb.attrs.foldl processAttr start₁).states.filter (!·.final)).map
      (fun s => ({ tA with source := .st s.name } : TDef))) = X := by
    rw [foldl_processAttr_states]
    simp only [start₁, push, hs, List.nil_append, X, List.map_map]
    rfl
  have hstep := finRel_of_inv ((kept_inv _ tA _).foldl_processAttr cb.attrs hInv hb.idx) hA hAe hint e hfresh
  rw [hXeq] at hstep
  rw [hstart₂, foldl_processAttr_spl hA (fun x hx => (hX x hx).1) cb.attrs start₁ hInv hb.idx]
  exact hstep

/-- **(f)** with states declared after the event: harmless as long as they are final (and new, and no
transition of the body leaves them). -/
theorem any_partial_later_finals (p : List Stmt) (fs : List SDecl) (e t : Name) (kw : Kw)
    (hev : kw.event = []) (hint : kw.internal = false)
    (hfresh : e ∉ (elabBody {} p).attrs.map (·.1))
    (hfinal : ∀ f ∈ fs, f.final = true)
    (hnew : ∀ f ∈ fs, f.name ∉ (declared (elabBody {} p).attrs).map (·.name) ∧
      ∀ t' ∈ (elabBody {} p).trans, t'.source ≠ .st f.name) :
    Equiv (elabClass {} (p ++ [.assign e (.fromAny t kw)] ++ fs.map .state))
      (elabClass {} (p ++ [.assign e (.from_ t
        (((declared (elabBody {} p).attrs ++ fs).filter (!·.final)).map (·.name)) kw)] ++ fs.map .state)) := by
  have hfilter : (declared (elabBody {} p).attrs ++ fs).filter (!·.final) =
      (declared (elabBody {} p).attrs).filter (!·.final) := by
    rw [List.filter_append, show fs.filter (!·.final) = [] from
      List.filter_eq_nil_iff.mpr (fun f hf => by simp [hfinal f hf]), List.append_nil]
  rw [hfilter, elabClass_assign, elabClass_assign]
  have hb := elabBody_spec (b := []) (G := fun _ => True) p {} (BodyInv.start {}) (fun _ _ _ _ => trivial)
    (fun _ _ _ _ => List.forall_mem_nil _)
  have hu := (elabBody_untouched p {}).states
  generalize elabBody {} p = cb at hb hu hfresh hnew
  have hstep := finRel_of_body cb hb hu e t kw hev hint hfresh
  -- nothing in the store of the `any()` side leaves a state of `fs`
  refine ((hstep.foldl_addState fs fun f hf => ?_).updateRefs).equiv
  have hstore : ∀ t' ∈ cb.trans ++ [mkT .any t kw], t'.source ≠ .st f.name :=
    List.forall_mem_append.mpr ⟨(hnew f hf).2, List.forall_mem_singleton.mpr Src.noConfusion⟩
  have hstates : ∀ s ∈ cb.states, s.name ≠ f.name := hu ▸ List.forall_mem_nil _
  have hdecl : ∀ s ∈ declared (cb.attrs ++ [(e, .tl (push cb [mkT .any t kw]).2)]), s.name ≠ f.name := by
    intro s hs heq
    rw [declared_append, show declared [(e, AttrVal.tl _)] = [] from rfl, List.append_nil] at hs
    exact (hnew f hf).1 (List.mem_map.mpr ⟨s, hs, heq⟩)
  have h := foldl_processAttr_source_ne (c := { (push cb [mkT .any t kw]).1 with attrs := [] }) _ hstore hstates hdecl
  rwa [List.foldl_append, List.foldl_cons, List.foldl_nil] at h

/-- **(f)** with no state declared after the event -/
theorem any_partial (p : List Stmt) (e t : Name) (kw : Kw)
    (hev : kw.event = []) (hint : kw.internal = false)
    (hfresh : e ∉ (elabBody {} p).attrs.map (·.1)) :
    Equiv (elabClass {} (p ++ [.assign e (.fromAny t kw)]))
      (elabClass {} (p ++ [.assign e (.from_ t
        (((declared (elabBody {} p).attrs).filter (!·.final)).map (·.name)) kw)])) := by
  simpa only [List.map_nil, List.append_nil] using
    any_partial_later_finals p [] e t kw hev hint hfresh (List.forall_mem_nil _) (List.forall_mem_nil _)

end SMV.Decl
