import SMV.Lemmas.EngineEq
/-!
# Relational invariants lifted through the engine

`Resp R x`: from every configuration `x` ends in one related to it by `R`, whether it returns or raises.
`Lift R A HR h`: what is needed to push a reflexive–transitive `R` through the engine, for *any* nested-send handler
`h` (so: for both processing modes): `R` is kept by appending log entries allowed by `A` (which may look at the
configuration at append time, e.g. "the `seen` field equals the model field") and by the handler, whose results
satisfy `HR`.
-/
namespace SMV

def Resp (R : Cfg → Cfg → Prop) {α} (x : EM α) : Prop := ∀ c, R c (x c).1

/-- `x >>= f` ends where `x` ended (it raised) or where `f` ended, run from there -/
theorem Resp.seq {S T U : Cfg → Cfg → Prop} {α β} {x : EM α} {f : α → EM β}
    (comp : ∀ a b c, S a b → T b c → U a c) (stop : ∀ a b, S a b → U a b)
    (hx : Resp S x) (hf : ∀ a, Resp T (f a)) : Resp U (x >>= f) := fun c => by
  rw [EM.bind_eq]
  split
  · exact comp _ _ _ (hx c) (hf _ _)
  · exact stop _ _ (hx c)

theorem Resp.ite {R : Cfg → Cfg → Prop} {α} {p : Prop} [Decidable p] {x y : EM α}
    (hx : Resp R x) (hy : Resp R y) : Resp R (if p then x else y) := by
  split <;> assumption

def Pres (P : Cfg → Prop) {α} (x : EM α) : Prop := Resp (fun c c' => P c → P c') x

theorem Pres.bind {P : Cfg → Prop} {α β} {x : EM α} {f : α → EM β}
    (hx : Pres P x) (hf : ∀ a, Pres P (f a)) : Pres P (x >>= f) :=
  Resp.seq (fun _ _ _ h1 h2 h => h2 (h1 h)) (fun _ _ h => h) hx hf
theorem Pres.pure {P : Cfg → Prop} {α} (a : α) : Pres P (pure a : EM α) := fun _ h => h
theorem Pres.throw {P : Cfg → Prop} {α} (e : Exc) : Pres P (EM.throw e : EM α) := fun _ h => h
theorem Pres.get {P : Cfg → Prop} : Pres P EM.get := fun _ h => h

structure Lift (R : Cfg → Cfg → Prop) (A : Cfg → Entry → Prop) (HR : Res → Prop) (h : Nested) : Prop where
  refl  : ∀ c, R c c
  trans : ∀ a b c, R a b → R b c → R a c
  -- any `nextInv`: `runCb` logs `cbBegin` and counts the invocation in one update
  log   : ∀ (c : Cfg) (es : List Entry) (n : Nat), (∀ e ∈ es, A c e) →
            R c { c with log := c.log ++ es, nextInv := n }
  handler : ∀ e c, R c (h e c).1 ∧ ∀ r, (h e c).2 = .ok r → HR r

/-- run-to-completion mode: a nested send queues the event under the next free id and hands back `None` -/
theorem Lift.rtc {R : Cfg → Cfg → Prop} {A : Cfg → Entry → Prop} (refl : ∀ c, R c c)
    (trans : ∀ a b c, R a b → R b c → R a c)
    (log : ∀ (c : Cfg) (es : List Entry) (n : Nat), (∀ e ∈ es, A c e) →
      R c { c with log := c.log ++ es, nextInv := n })
    (enq : ∀ e c, R c { c with queue := c.queue ++ [{ tid := c.nextTid, event := e }], nextTid := c.nextTid + 1 }) :
    Lift R A (· = .none) nestedRtc :=
  ⟨refl, trans, log, fun e c => ⟨enq e c, fun _ hr => (Except.ok.inj hr).symm⟩⟩

/-- the entries one invocation of callback `cb` in phase `ph` may append are all allowed -/
def EntryOk (A : Cfg → Entry → Prop) (HR : Res → Prop) (x : Ctx) (ph : Phase) (cb : CbId) : Prop :=
  ∀ c, A c (.cbBegin x.t.tid ph cb c.cur x.t.event x.src x.tgt) ∧
       (∀ r, HR r → A c (.sendRet x.t.tid ph cb r)) ∧ ∀ v, A c (.cbEnd x.t.tid ph cb v)

/-- the callbacks `activatePre` / `activatePost` run as group `ph` of `tr` when the event is `ev` -/
def groupCbs (m : Machine) (ev : EventId) (tr : Transn) : Phase → List CbId
  | .validators => tr.validators
  | .cond => tr.conds.map (·.1)
  | .before => applicable ev tr.before
  | .exit => if tr.internal then [] else (stateDef m tr.source).exit
  | .on => applicable ev tr.on
  | .enter => if tr.internal then [] else (stateDef m tr.target).enter
  | .after => applicable ev tr.after

section Lifting
variable {R : Cfg → Cfg → Prop} {A : Cfg → Entry → Prop} {HR : Res → Prop} {h : Nested} (L : Lift R A HR h)
include L

theorem Lift.bind {α β} {x : EM α} {f : α → EM β}
    (hx : Resp R x) (hf : ∀ a, Resp R (f a)) : Resp R (x >>= f) := Resp.seq L.trans (fun _ _ h => h) hx hf
theorem Lift.pure {α} (a : α) : Resp R (pure a : EM α) := fun c => L.refl c
theorem Lift.throw {α} (e : Exc) : Resp R (EM.throw e : EM α) := fun c => L.refl c
theorem Lift.get : Resp R EM.get := fun c => L.refl c

/-- with `n := (·.nextInv)`: `logAppend` of one entry, by structure eta -/
theorem Lift.append (e : Cfg → Entry) (n : Cfg → Nat) (he : ∀ c, A c (e c)) :
    Resp R (EM.modify fun c => { c with log := c.log ++ [e c], nextInv := n c }) := fun c =>
  L.log c [e c] (n c) (List.forall_mem_singleton.2 (he c))

theorem sendsLoop_lift (x : Ctx) (ph : Phase) (cb : CbId) (ok : EntryOk A HR x ph cb)
    (es : List EventId) (last : Option Res) : Resp R (sendsLoop h x ph cb last es) := by
  induction es generalizing last with
  | nil => exact L.pure _
  | cons e es ih =>
    intro c
    rw [sendsLoop, EM.bind_eq]
    have hh := L.handler e c
    split
    · rename_i r hr
      exact L.trans _ _ _ hh.1
        (L.bind (L.append _ (·.nextInv) fun c => (ok c).2.1 r (hh.2 r hr)) (fun _ => ih _) _)
    · exact hh.1

theorem runCb_lift (m : Machine) (x : Ctx) (ph : Phase) (cb : CbId)
    (ok : EntryOk A HR x ph cb) : Resp R (runCb h m x ph cb) := by
  unfold runCb
  refine L.bind L.get fun cfg => L.bind (L.append _ _ fun c => (ok c).1) fun _ =>
    L.bind (sendsLoop_lift L x ph cb ok _ _) fun last => ?_
  split
  · exact L.throw _
  · exact L.bind (L.append _ (·.nextInv) fun c => (ok c).2.2 _) fun _ => L.pure _

theorem runGroup_lift (m : Machine) (x : Ctx) (ph : Phase) (cs : List CbId)
    (ok : ∀ cb ∈ cs, EntryOk A HR x ph cb) : Resp R (runGroup h m x ph cs) := by
  induction cs with
  | nil => exact L.pure _
  | cons c cs ih =>
    unfold runGroup
    exact L.bind (runCb_lift L m x ph c (ok c List.mem_cons_self)) fun _ =>
      L.bind (ih fun cb hcb => ok cb (.tail _ hcb)) fun _ => L.pure _

theorem runConds_lift (m : Machine) (x : Ctx) (cs : List (CbId × Bool))
    (ok : ∀ p ∈ cs, EntryOk A HR x .cond p.1) : Resp R (runConds h m x cs) := by
  induction cs with
  | nil => exact L.pure _
  | cons c cs ih =>
    obtain ⟨c, ex⟩ := c
    unfold runConds
    exact L.bind (runCb_lift L m x .cond c (ok (c, ex) List.mem_cons_self)) fun v =>
      .ite (ih fun p hp => ok p (.tail _ hp)) (L.pure _)

variable (m : Machine) (t : Trigger)

section Transition
variable (tr : Transn)
  (ok : ∀ ph, ∀ cb ∈ groupCbs m t.event tr ph, EntryOk A HR ⟨t, some tr.source, tr.target⟩ ph cb)
include ok

theorem activatePre_lift : Resp R (activatePre h m t tr) := by
  unfold activatePre
  refine L.bind (runGroup_lift L m _ _ _ (ok .validators)) fun _ => ?_
  refine L.bind (runConds_lift L m _ _ fun p hp => ok .cond p.1 (List.mem_map_of_mem hp)) fun okc =>
    .ite (L.pure _) ?_
  exact L.bind (runGroup_lift L m _ _ _ (ok .before)) fun _ =>
    L.bind (runGroup_lift L m _ _ _ (ok .exit)) fun _ =>
    L.bind (runGroup_lift L m _ _ _ (ok .on)) fun _ => L.pure _

-- `…_after` (here and for the initial activation): from the assignment on; `Same`, `View` (C02) do not hold across it
theorem activatePost_after (c : Cfg) : R (setState t (stateVal m tr.target) c).1 (activatePost h m t tr c).1 := by
  unfold activatePost
  rw [EM.bind_ok (setState_snd ..)]
  exact L.bind (runGroup_lift L m _ _ _ (ok .enter)) (fun _ =>
    L.bind (runGroup_lift L m _ _ _ (ok .after)) fun _ => L.pure _) _

theorem activate_lift (hset : Resp R (setState t (stateVal m tr.target))) : Resp R (activate h m t tr) := by
  unfold activate
  refine L.bind (activatePre_lift L m t tr ok) fun r => ?_
  cases r with
  | none => exact L.pure _
  | some rs => exact L.bind (fun c => L.trans _ _ _ (hset c) (activatePost_after L m t tr ok c)) fun _ => L.pure _
end Transition

section Initial
variable {s : StateId} (hs : initialTarget m = .ok s)
  (ok : ∀ cb ∈ (stateDef m s).enter, EntryOk A HR { t := t, src := none, tgt := s } .enter cb)
include hs ok

theorem activateInitial_after (c : Cfg) : R (setState t (stateVal m s) c).1 (activateInitial h m t c).1 := by
  simp only [activateInitial, hs]
  rw [EM.bind_ok (setState_snd ..)]
  exact L.bind (runGroup_lift L m _ _ _ ok) (fun _ => L.pure _) _

theorem activateInitial_lift (hset : Resp R (setState t (stateVal m s))) : Resp R (activateInitial h m t) := fun c =>
  L.trans _ _ _ (hset c) (activateInitial_after L m t hs ok c)
end Initial

section Trigger
variable (okAll : ∀ src tgt ph cb, EntryOk A HR ⟨t, src, tgt⟩ ph cb) (hset : ∀ v, Resp R (setState t v))
include okAll hset

theorem tryCands_lift (trs : List Transn) : Resp R (tryCands h m t trs) := by
  induction trs with
  | nil => exact L.pure _
  | cons tr rest ih =>
    unfold tryCands
    refine .ite (L.bind (activate_lift L m t tr (fun ph cb _ => okAll _ _ ph cb) (hset _)) fun r => ?_) ih
    cases r with
    | none => exact ih
    | some r => exact L.pure _

theorem trigger_lift : Resp R (trigger h m t) := by
  unfold trigger
  refine L.bind L.get fun cfg => .ite (L.bind ?_ fun _ => L.pure _) (.ite (L.pure _) ?_)
  · cases hs : initialTarget m with
    | error e =>
      simp only [activateInitial, hs]
      exact L.throw _
    | ok s => exact activateInitial_lift L m t hs (fun cb _ => okAll _ _ _ cb) (hset _)
  cases cfg.cur.bind (lookupState m) with
  | none => exact L.throw _
  | some s =>
    refine L.bind (tryCands_lift L m t okAll hset _) fun r => ?_
    cases r with
    | some r => exact L.pure _
    | none => exact .ite (L.pure _) (L.throw _)
end Trigger
end Lifting

end SMV
