import SMV.Model.Lexer
/-!
# Lemmas for C08: the rewrite of the alternate spellings, token by token and as the character-level scanner `repl`

The scanner on a run of word characters (`repl_word`), on characters it never touches (`repl_inert`), inside a string
literal (`scan_strOk`); from these per token (`repl_tok`) and, by induction on the tokens, on a `wellSpaced` rendering
(`repl_render`; `next_render` says what the scanner's one-character lookahead sees at a token boundary).
-/
namespace SMV.GExpr

theorem rewriteTok_of_not_alt {t : Tok} (h : isAlt t = false) : rewriteTok t = t := by
  cases t with
  | ident s => simp only [isAlt, decide_eq_false_iff_not] at h; simp [rewriteTok, h]
  | bang => cases h
  | caret => cases h
  | _ => rfl

theorem isAlt_rewriteTok (t : Tok) : isAlt (rewriteTok t) = false := by
  cases t with
  | ident s => by_cases hs : s = "v" <;> simp [rewriteTok, hs, isAlt]
  | _ => rfl

theorem beq_false_of_isWord {c d : Char} (h : isWord c = true) (hd : isWord d = false) :
    (c == d) = false := by
  cases hcd : c == d with
  | false => rfl
  | true =>
    obtain rfl := eq_of_beq hcd
    rw [h] at hd
    cases hd

theorem isWord_special (c : Char) (h : isWord c = true) :
    isQuote c = false ∧ (c == '!') = false ∧ (c == '^') = false := by
  refine ⟨?_, beq_false_of_isWord h (show isWord '!' = false by decide),
    beq_false_of_isWord h (show isWord '^' = false by decide)⟩
  simp [isQuote, beq_false_of_isWord h (show isWord '"' = false by decide),
    beq_false_of_isWord h (show isWord '\'' = false by decide)]

def isSep (c : Char) : Bool := c == ' ' || c == '\t'

theorem isSep_cases {c : Char} (h : isSep c = true) : c = ' ' ∨ c = '\t' := by
  simp only [isSep, Bool.or_eq_true, beq_iff_eq] at h; exact h

theorem repl_plain (pw : Bool) (c : Char) (cs : List Char)
    (hq : isQuote c = false) (hb : (c == '!') = false) (hc : (c == '^') = false)
    (hv : (c == 'v') = false ∨ pw = true ∨ nextIsWord cs = true) :
    repl true (.code pw) (c :: cs) = c :: repl true (.code (isWord c)) cs := by
  simp only [repl, hq, hb, hc]
  rcases hv with h | h | h <;> simp [h]

theorem nextIsWord_append_cons (c : Char) (w rest : List Char) :
    nextIsWord ((c :: w) ++ rest) = isWord c := rfl

theorem repl_word_tail (w rest : List Char) (hw : w.all isWord = true) :
    repl true (.code true) (w ++ rest) = w ++ repl true (.code true) rest := by
  induction w with
  | nil => rfl
  | cons c w ih =>
    simp only [List.all_cons, Bool.and_eq_true] at hw
    obtain ⟨hq, hb, hc⟩ := isWord_special c hw.1
    simp only [List.cons_append]
    rw [repl_plain true c (w ++ rest) hq hb hc (Or.inr (Or.inl rfl)), hw.1, ih hw.2]

theorem repl_word (w rest : List Char) (hne : w ≠ []) (hw : w.all isWord = true)
    (hnext : nextIsWord rest = false) :
    repl true (.code false) (w ++ rest) =
      (if w = ['v'] then " or ".toList else w) ++ repl true (.code true) rest := by
  by_cases hv : w = ['v']
  · subst hv; simp [repl, hnext, isQuote]
  · obtain ⟨c, w, rfl⟩ := List.exists_cons_of_ne_nil hne
    simp only [List.all_cons, Bool.and_eq_true] at hw
    obtain ⟨hq, hb, hc⟩ := isWord_special c hw.1
    -- `c` is not a `v` on its own: it is another letter, or a word character follows
    have hv' : (c == 'v') = false ∨ false = true ∨ nextIsWord (w ++ rest) = true := by
      cases w with
      | nil => exact .inl (by simpa using hv)
      | cons d w => simp only [List.all_cons, Bool.and_eq_true] at hw; exact .inr (.inr hw.2.1)
    rw [if_neg hv, List.cons_append, repl_plain false c _ hq hb hc hv', hw.1, repl_word_tail w rest hw.2]
    rfl

/-- a character that the scanner copies in every context and that does not count as part of a word:
blanks, parentheses, `<`, `>`, `=` -/
def inert (c : Char) : Bool := !(isWord c || isQuote c || c == '!' || c == '^')

/-- the mode afterwards: "the previous character was a word character" is false after a non-empty inert run, `pw` after
an empty one -/
theorem repl_inert (pw : Bool) (s rest : List Char) (hs : s.all inert = true) :
    repl true (.code pw) (s ++ rest) = s ++ repl true (.code (s.isEmpty && pw)) rest := by
  induction s generalizing pw with
  | nil => rfl
  | cons c s ih =>
    simp only [List.all_cons, Bool.and_eq_true, inert, Bool.not_eq_true', Bool.or_eq_false_iff] at hs
    obtain ⟨⟨⟨⟨hw, hq⟩, hb⟩, hc⟩, hs⟩ := hs
    have hv : (c == 'v') = false := Bool.eq_false_iff.mpr fun h => by rw [eq_of_beq h] at hw; cases hw
    rw [List.cons_append, repl_plain pw c _ hq hb hc (.inl hv), hw, ih false hs]
    cases s <;> rfl

theorem all_inert_of_isSep {s : List Char} (h : s.all isSep = true) : s.all inert = true := by
  simp only [List.all_eq_true] at h ⊢
  intro c hc
  rcases isSep_cases (h c hc) with rfl | rfl <;> decide

/-- `w` = the text after an opening quote `q`: a body without an unescaped `q`, then `q`, then nothing -/
def strOk (q : Char) : Bool → List Char → Bool
  | _, [] => false
  | esc, c :: cs =>
    if esc then c != '\n' && strOk q false cs
    else if c == q then cs.isEmpty
    else if c == '\\' then strOk q true cs
    else strOk q false cs

def wfStr : List Char → Bool
  | [] => false
  | q :: w => isQuote q && strOk q false w

/-- `strOk`, `closes` and `repl` inside a quoted span make the same case distinction at every character: end of text, an
escaped character, the closing quote, a backslash, any other (`case1` … `case5`) -/
theorem scan_strOk (q : Char) (rest : List Char) (esc : Bool) (w : List Char) (h : strOk q esc w = true) :
    closes q esc (w ++ rest) = true ∧
    repl true (.str q esc) (w ++ rest) = w ++ repl true (.code false) rest := by
  induction esc, w using strOk.induct q with
  | case1 => cases h
  | case2 c cs ih =>
    simp only [strOk, if_true, Bool.and_eq_true, bne_iff_ne, ne_eq] at h
    simp [closes, repl, h.1, ih h.2]
  | case3 esc c cs he hq =>
    obtain rfl := eq_false_of_ne_true he
    simp only [strOk, hq, if_true, List.isEmpty_iff, Bool.false_eq_true, if_false] at h
    simp [closes, repl, hq, h]
  | case4 esc c cs he hq hb ih =>
    obtain rfl := eq_false_of_ne_true he
    simp only [strOk, hq, hb, if_true, Bool.false_eq_true, if_false] at h
    simp [closes, repl, hq, hb, ih h]
  | case5 esc c cs he hq hb ih =>
    obtain rfl := eq_false_of_ne_true he
    simp only [strOk, hq, hb, Bool.false_eq_true, if_false] at h
    simp [closes, repl, hq, hb, ih h]

theorem repl_strLit (pw : Bool) (b rest : List Char) (h : wfStr b = true) :
    repl true (.code pw) (b ++ rest) = b ++ repl true (.code false) rest := by
  cases b with
  | nil => cases h
  | cons q w =>
    simp only [wfStr, Bool.and_eq_true] at h
    obtain ⟨hc, hr⟩ := scan_strOk q rest false w h.2
    simp only [List.cons_append, repl, h.1, hc, hr, Bool.and_self, if_true]

/-- word-like tokens: two of them need a blank in between -/
def wordy : Tok → Bool
  | .ident _ | .kwNot | .kwAnd | .kwOr | .num _ => true
  | _ => false

def isCmpTok : Tok → Bool
  | .cmp _ => true
  | _ => false

def wfTok : Tok → Bool
  | .ident s => !s.toList.isEmpty && s.toList.all isWord
  | .num d => !d.toList.isEmpty && d.toList.all Char.isDigit
  | .strLit b => wfStr b.toList
  | _ => true

theorem isWord_of_isDigit (c : Char) (h : c.isDigit = true) : isWord c = true := by
  simp [isWord, Char.isAlphanum, h]

/-- stated apart because `['v']` is `"v".toList` only up to evaluation: `String.toList_inj` does not rewrite it -/
theorem toList_eq_v (s : String) : s.toList = ['v'] ↔ s = "v" := String.toList_inj (s₂ := "v")

/-- the last part gives `tokTextR` the form in which `repl_word` writes a word -/
theorem wordy_text {t : Tok} (hw : wordy t = true) (hwf : wfTok t = true) :
    tokText t ≠ [] ∧ (tokText t).all isWord = true ∧
      tokTextR t = if tokText t = ['v'] then " or ".toList else tokText t := by
  cases t with
  | ident s =>
    simp only [wfTok, Bool.and_eq_true, Bool.not_eq_true', List.isEmpty_eq_false_iff] at hwf
    exact ⟨hwf.1, hwf.2, by simp only [tokText, tokTextR, toList_eq_v]⟩
  | num d =>
    simp only [wfTok, Bool.and_eq_true, Bool.not_eq_true', List.isEmpty_eq_false_iff] at hwf
    refine ⟨hwf.1, ?_, (if_neg fun h => ?_).symm⟩
    · exact List.all_eq_true.mpr fun c hc => isWord_of_isDigit c (List.all_eq_true.mp hwf.2 c hc)
    · rw [show d.toList = ['v'] from h] at hwf; exact absurd hwf.2 (by decide)
  -- closed; `simp` evaluates string and character literals by simprocs, where `decide` would unfold them
  | kwNot | kwAnd | kwOr => simp [tokText, tokTextR, isWord]
  | _ => cases hw

theorem next_tokText (t : Tok) (rest : List Char) (hwf : wfTok t = true) :
    nextIsWord (tokText t ++ rest) = wordy t ∧
      (isCmpTok t = false → nextIsEq (tokText t ++ rest) = false) := by
  cases hw : wordy t with
  | true =>
    obtain ⟨hne, hall, -⟩ := wordy_text hw hwf
    obtain ⟨c, w, h⟩ := List.exists_cons_of_ne_nil hne
    rw [h, List.all_cons, Bool.and_eq_true] at hall
    rw [h]
    exact ⟨hall.1, fun _ => beq_false_of_isWord hall.1 (show isWord '=' = false by decide)⟩
  | false =>
    cases t with
    | ident _ | num _ | kwNot | kwAnd | kwOr => cases hw
    | strLit b =>
      simp only [wfTok, tokText] at hwf ⊢
      generalize b.toList = l at hwf ⊢
      cases l with
      | nil => cases hwf
      | cons q w =>
        simp only [wfStr, Bool.and_eq_true, isQuote, Bool.or_eq_true, beq_iff_eq] at hwf
        rcases hwf.1 with rfl | rfl <;> simp [nextIsWord, nextIsEq, isWord]
    | cmp c => cases c <;> simp [tokText, cmpText, nextIsWord, isWord, isCmpTok]
    | _ => simp [tokText, nextIsWord, nextIsEq, isWord]

theorem repl_tok (t : Tok) (pw : Bool) (rest : List Char) (hwf : wfTok t = true)
    (hpw : wordy t = true → pw = false)
    (hnw : wordy t = true → nextIsWord rest = false)
    (hne : t = .bang → nextIsEq rest = false) :
    repl true (.code pw) (tokText t ++ rest) = tokTextR t ++ repl true (.code (wordy t)) rest := by
  cases hw : wordy t with
  | true =>
    obtain ⟨hne, hall, hR⟩ := wordy_text hw hwf
    rw [hpw hw, hR]
    exact repl_word _ rest hne hall (hnw hw)
  | false =>
    cases t with
    | ident _ | num _ | kwNot | kwAnd | kwOr => cases hw
    | bang => simp [tokText, tokTextR, repl, isQuote, hne rfl]
    | caret => simp [tokText, tokTextR, repl, isQuote]
    | lpar | rpar => exact repl_inert pw _ rest (by decide)
    | cmp c =>
      cases c <;> simp only [tokText, tokTextR, cmpText, String.reduceToList]
      case ne => simp [repl, isQuote, isWord, nextIsEq]
      all_goals exact repl_inert pw _ rest (by decide)
    | strLit b => exact repl_strLit pw b.toList rest hwf

/-- the renderings of a token list that `repl_render` speaks of: every token lexically well-formed (names are word
characters, numbers digits, string literals close with the quote they open with and have no newline after a
backslash), separators are blanks/tabs, two word-like tokens are never glued together, and `!` is not glued to a
comparison operator. (That CPython's tokenizer reads such a text back as these tokens is not claimed: the tokenizer is
not modelled, and e.g. `<` glued to `==` passes.) -/
def wellSpaced : List Tok → List (List Char) → Bool
  | [], _ => true
  | [t], seps => wfTok t && (seps.headD []).all isSep
  | t :: t' :: ts, seps =>
    wfTok t && (seps.headD []).all isSep &&
    (!(seps.headD []).isEmpty || (!(wordy t && wordy t') && !(t == .bang && isCmpTok t'))) &&
    wellSpaced (t' :: ts) seps.tail

theorem render_cons (txt : Tok → List Char) (t : Tok) (ts : List Tok) (seps : List (List Char)) :
    render txt (t :: ts) seps = txt t ++ (seps.headD [] ++ render txt ts seps.tail) := by
  cases seps <;> simp [render]

theorem wellSpaced_cons (t : Tok) (ts : List Tok) (seps : List (List Char)) :
    wellSpaced (t :: ts) seps =
      (wfTok t && (seps.headD []).all isSep &&
       ts.head?.all (fun t' =>
         !(seps.headD []).isEmpty || (!(wordy t && wordy t') && !(t == .bang && isCmpTok t'))) &&
       wellSpaced ts seps.tail) := by
  cases ts with
  | nil => simp [wellSpaced]
  | cons => rfl

/-- the adjacency clause of `wellSpaced` (`b`: no blank in between, `o`: the next token if there is one), in the three
forms `repl_render` needs -/
theorem not_glued {b : Bool} {t : Tok} {o : Option Tok}
    (h : o.all (fun t' => !b || (!(wordy t && wordy t') && !(t == .bang && isCmpTok t'))) = true) :
    (wordy t = true → (b && o.any wordy) = false) ∧ (o.any wordy = true → (b && wordy t) = false) ∧
    (t = .bang → (b && o.any isCmpTok) = false) := by
  cases b
  · exact ⟨fun _ => rfl, fun _ => rfl, fun _ => rfl⟩
  · cases o with
    | none => exact ⟨fun _ => rfl, nofun, fun _ => rfl⟩
    | some t' =>
      simp only [Option.all_some, Bool.not_true, Bool.false_or, Bool.and_eq_true, Bool.not_eq_true',
        Bool.and_eq_false_iff] at h
      exact ⟨fun hw => h.1.resolve_left (by simp [hw]), fun hw => h.1.resolve_right (by simpa using hw),
        fun hb => h.2.resolve_left (by simp [hb])⟩

theorem next_render (s : List Char) (ts : List Tok) (seps : List (List Char)) (hs : s.all isSep = true)
    (h : wellSpaced ts seps = true) :
    nextIsWord (s ++ render tokText ts seps) = (s.isEmpty && ts.head?.any wordy) ∧
    ((s.isEmpty && ts.head?.any isCmpTok) = false → nextIsEq (s ++ render tokText ts seps) = false) := by
  cases s with
  | cons c s =>
    simp only [List.all_cons, Bool.and_eq_true] at hs
    rcases isSep_cases hs.1 with rfl | rfl <;> exact ⟨rfl, fun _ => rfl⟩
  | nil =>
    cases ts with
    | nil => cases seps <;> exact ⟨rfl, fun _ => rfl⟩
    | cons t ts =>
      rw [wellSpaced_cons] at h
      simp only [Bool.and_eq_true] at h
      rw [List.nil_append, render_cons]
      exact next_tokText t _ h.1.1.1

theorem repl_render (ts : List Tok) :
    ∀ (seps : List (List Char)) (pw : Bool), wellSpaced ts seps = true →
      (∀ t, ts.head? = some t → wordy t = true → pw = false) →
      repl true (.code pw) (render tokText ts seps) = render tokTextR ts seps := by
  induction ts with
  | nil => intro seps pw _ _; cases seps <;> rfl
  | cons t ts ih =>
    intro seps pw hws hpw
    rw [wellSpaced_cons] at hws
    simp only [Bool.and_eq_true] at hws
    obtain ⟨⟨⟨hwf, hsep⟩, hadj⟩, hrest⟩ := hws
    obtain ⟨hnw, hne⟩ := next_render _ ts seps.tail hsep hrest
    obtain ⟨g1, g2, g3⟩ := not_glued hadj
    rw [render_cons, render_cons,
      repl_tok t pw _ hwf (hpw t rfl) (fun hw => hnw.trans (g1 hw)) (fun hb => hne (g3 hb)),
      repl_inert _ _ _ (all_inert_of_isSep hsep),
      ih seps.tail _ hrest fun t' ht' hw' => g2 (by rw [ht']; exact hw')]

end SMV.GExpr
