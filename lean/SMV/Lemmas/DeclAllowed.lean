import SMV.Lemmas.DeclFinRel
/-!
# `allowed_events` is determined by the candidate lists; a decidable check that implies `≈`
-/
namespace SMV.Decl

/-- the list that `finalEvents` makes of `t.events` and `allowed` of `uniqueEvents (outOf c s)` -/
theorem mem_realIds {l : List EvRef} {e : Name} :
    e ∈ l.filterMap (fun | .real id _ => some id | .ph _ => none) ↔ ∃ tl, EvRef.real e tl ∈ l := by
  rw [List.mem_filterMap]
  constructor
  · rintro ⟨x, hx, h⟩
    cases x with
    | ph v => exact nomatch h
    | real k tl => exact ⟨tl, Option.some.inj h ▸ hx⟩
  · rintro ⟨tl, h⟩
    exact ⟨_, h, rfl⟩

theorem mem_finalEvents {t : TDef} {e : Name} : e ∈ finalEvents t ↔ ∃ tl, EvRef.real e tl ∈ t.events :=
  mem_realIds

theorem mem_allowed (c : Cls) (s e : Name) : e ∈ allowed c s ↔ cands c s e ≠ [] := by
  have hc : cands c s e ≠ [] ↔ ∃ t ∈ outOf c s, e ∈ finalEvents t := by
    simp only [cands, List.contains_eq_mem, ne_eq, List.map_eq_nil_iff, List.filter_eq_nil_iff, decide_eq_true_eq,
      Classical.not_forall, Decidable.not_not, exists_prop]
  rw [hc]
  refine mem_realIds.trans ⟨?_, ?_⟩
  · rintro ⟨tl, hy⟩
    obtain ⟨t, ht, hx⟩ := mem_uniqueEvents hy
    exact ⟨t, ht, mem_finalEvents.mpr ⟨tl, hx⟩⟩
  · rintro ⟨t, ht, h⟩
    obtain ⟨tl, hx⟩ := mem_finalEvents.mp h
    obtain ⟨y, hy, hs⟩ := foldl_addEv_has _ [] (List.mem_flatMap.mpr ⟨t, ht, hx⟩)
    obtain ⟨tl', rfl⟩ := same_real hs
    exact ⟨tl', hy⟩

/-- `≈` classes allow the same events in every state -/
theorem Equiv.allowed {c₁ c₂ : Cls} (E : Equiv c₁ c₂) (s : SDecl) (hs : s ∈ c₁.states) (e : Name) :
    e ∈ allowed c₁ s.name ↔ e ∈ allowed c₂ s.name := by
  rw [mem_allowed, mem_allowed, E.cands s hs e]

/-- every event some transition of the class is bound to: the events `equivB` has to compare candidates for -/
def evUniverse (c : Cls) : List Name := c.trans.flatMap finalEvents

/-- the instances of C15 are decided with it (`equivB_sound`) -/
def equivB (c₁ c₂ : Cls) : Bool :=
  decide (c₁.states = c₂.states) && c₁.events.all (c₂.events.contains ·) && c₂.events.all (c₁.events.contains ·) &&
  decide (c₁.err = c₂.err) &&
  c₁.states.all fun s => (evUniverse c₁ ++ evUniverse c₂).all fun e =>
    decide (cands c₁ s.name e = cands c₂ s.name e)

theorem equivB_sound {c₁ c₂ : Cls} (h : equivB c₁ c₂ = true) : Equiv c₁ c₂ := by
  simp only [equivB, Bool.and_eq_true, decide_eq_true_eq, List.all_eq_true, List.contains_iff_mem,
    List.mem_append] at h
  obtain ⟨⟨⟨⟨h1, h2⟩, h3⟩, h4⟩, h5⟩ := h
  refine ⟨h1, fun e => ⟨h2 e, h3 e⟩, ?_, h4⟩
  intro s hs e
  by_cases he : e ∈ evUniverse c₁ ∨ e ∈ evUniverse c₂
  · exact h5 s hs e he
  · show candsOf c₁.trans s.name e = candsOf c₂.trans s.name e
    rw [candsOf_nil_of fun t ht hx => he (.inl (List.mem_flatMap.mpr ⟨t, ht, hx⟩)),
      candsOf_nil_of fun t ht hx => he (.inr (List.mem_flatMap.mpr ⟨t, ht, hx⟩))]

end SMV.Decl
