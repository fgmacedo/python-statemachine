import SMV.Model.Registry
/-!
# Lemmas about the callback registry model `SMV.Reg`

An executor is `add` folded over a list of candidate entries: what `buildSpec` yields for the specs
of the group in the constructor pass, then in every later `add_listener` pass (`allEntries`,
`executor_eq`, with `mem_allEntries` saying which entries these are). What C12 says about executors
follows from facts about folding `add`; what one `add` keeps — distinct keys, sorted priorities — the
fold keeps (`List.foldlRecOn`).

`Reg.add` and `Prov.addKey` (`Model/World.lean`) model the same `CallbacksExecutor.add`, here with
priorities and groups, there on names alone; `Lemmas/Attach.lean` has the same facts about `addKey`
under the same names.
-/
namespace SMV.Reg

open SMV.Prov

theorem seen_iff (ex : Exec) (k : Key × Bool) : seen ex k = true ↔ ∃ x ∈ ex, x.dk = k := by
  simp only [seen, List.any_eq_true, beq_iff_eq]

theorem insort_perm (e : Entry) (ex : Exec) : (insort e ex).Perm (e :: ex) := by
  induction ex with
  | nil => exact List.Perm.refl _
  | cons y ys ih =>
    unfold insort
    split
    · exact List.Perm.refl _
    · exact (List.Perm.cons y ih).trans (List.Perm.swap e y ys)

theorem mem_insort (e x : Entry) (ex : Exec) : x ∈ insort e ex ↔ x = e ∨ x ∈ ex := by
  rw [(insort_perm e ex).mem_iff, List.mem_cons]

theorem insort_sorted (e : Entry) (ex : Exec) (h : ex.Pairwise (·.prio ≤ ·.prio)) :
    (insort e ex).Pairwise (·.prio ≤ ·.prio) := by
  induction ex with
  | nil => exact List.pairwise_singleton ..
  | cons y ys ih =>
    obtain ⟨hy, hys⟩ := List.pairwise_cons.mp h
    unfold insort
    split
    · rename_i hlt
      exact List.pairwise_cons.mpr ⟨fun a ha => Nat.le_trans (Nat.le_of_lt hlt)
        ((List.mem_cons.mp ha).elim (· ▸ Nat.le_refl _) (hy a)), h⟩
    · rename_i hge
      exact List.pairwise_cons.mpr
        ⟨fun a ha => ((mem_insort e a ys).mp ha).elim (· ▸ Nat.le_of_not_lt hge) (hy a), ih hys⟩

theorem add_of_seen (ex : Exec) (e : Entry) (h : seen ex e.dk = true) : add ex e = ex := by
  simp [add, h]

theorem mem_add (ex : Exec) (e x : Entry) (h : x ∈ add ex e) : x ∈ ex ∨ x = e := by
  unfold add at h
  split at h
  · exact .inl h
  · exact ((mem_insort e x ex).mp h).symm

theorem seen_add (ex : Exec) (e : Entry) (k : Key × Bool) :
    seen (add ex e) k = true ↔ seen ex k = true ∨ e.dk = k := by
  unfold add
  split
  · exact ⟨.inl, fun h => h.elim id (· ▸ ‹_›)⟩
  · simp only [seen_iff, mem_insort, or_and_right, exists_or, exists_eq_left, or_comm]

theorem add_keys_nodup (ex : Exec) (e : Entry) (h : (ex.map (·.dk)).Nodup) :
    ((add ex e).map (·.dk)).Nodup := by
  unfold add
  split
  · exact h
  · rename_i hs
    rw [((insort_perm e ex).map _).nodup_iff, List.map_cons, List.nodup_cons]
    exact ⟨fun hm => hs ((seen_iff ex e.dk).mpr (List.mem_map.mp hm)), h⟩

theorem add_sorted (ex : Exec) (e : Entry) (h : ex.Pairwise (·.prio ≤ ·.prio)) :
    (add ex e).Pairwise (·.prio ≤ ·.prio) := by
  unfold add
  split
  · exact h
  · exact insort_sorted e ex h

theorem mem_foldl_add (es : List Entry) (ex : Exec) (x : Entry) (h : x ∈ es.foldl add ex) : x ∈ ex ∨ x ∈ es :=
  List.foldlRecOn (motive := fun acc => x ∈ acc → x ∈ ex ∨ x ∈ es) es add .inl
    (fun acc ih e he h => (mem_add acc e x h).elim ih fun h => .inr (h ▸ he)) h

theorem seen_foldl_add (es : List Entry) (ex : Exec) (k : Key × Bool) :
    seen (es.foldl add ex) k = true ↔ seen ex k = true ∨ ∃ e ∈ es, e.dk = k := by
  induction es generalizing ex with
  | nil => simp
  | cons e es ih => simp only [List.foldl_cons, ih, seen_add, List.mem_cons, exists_eq_or_imp, or_assoc]

theorem foldl_add_saturated (es : List Entry) (ex : Exec) (h : ∀ e ∈ es, seen ex e.dk = true) :
    es.foldl add ex = ex :=
  List.foldlRecOn (motive := (· = ex)) es add rfl fun acc (ih : acc = ex) e he => by
    rw [ih, add_of_seen ex e (h e he)]

theorem mem_buildSpec_name (ps : List Provider) (s : Spec) (n : Name) (hs : s.ref = .name n) (e : Entry) :
    e ∈ buildSpec ps s ↔ ∃ p ∈ ps, ∃ cb, offers p n = some cb ∧
      e = { key := .named n p.id, cb := cb, prio := s.prio, only := s.only, expected := s.expected } := by
  unfold buildSpec
  rw [hs]
  simp only [List.mem_filterMap, Option.map_eq_some_iff, eq_comm (a := e)]

theorem mem_buildSpec_callable (ps : List Provider) (s : Spec) (cb : CbId) (hs : s.ref = .callable cb)
    (e : Entry) :
    e ∈ buildSpec ps s ↔
      e = { key := .callable cb, cb := cb, prio := s.prio, only := s.only, expected := s.expected } := by
  unfold buildSpec
  rw [hs]
  simp

/-- the candidate entries of one registration pass over the providers `ps` for group `g`: what `resolveInto` folds
`add` over (`resolveInto_eq`); a late pass (`safe`) resolves names only -/
def passEntries (safe : Bool) (ps : List Provider) (g : Group) (specs : List Spec) : List Entry :=
  specs.flatMap fun s =>
    if s.group != g then []
    else match s.ref, safe with
      | .callable _, true => []
      | _, _ => buildSpec ps s

theorem resolveInto_eq (safe : Bool) (ps : List Provider) (g : Group) (ex : Exec) (specs : List Spec) :
    resolveInto safe ps g ex specs = (passEntries safe ps g specs).foldl add ex := by
  rw [passEntries, List.foldl_flatMap, resolveInto]
  refine congrArg (specs.foldl · ex) ?_
  funext ex s
  split
  · rfl
  · cases s.ref <;> cases safe <;> rfl

theorem mem_passEntries (safe : Bool) (ps : List Provider) (g : Group) (specs : List Spec) (e : Entry) :
    e ∈ passEntries safe ps g specs ↔
      ∃ s ∈ specs, s.group = g ∧ (safe = true → ∃ n, s.ref = .name n) ∧ e ∈ buildSpec ps s := by
  rw [passEntries, List.mem_flatMap]
  refine exists_congr fun s => and_congr_right fun _ => ?_
  by_cases hg : s.group = g
  · cases hr : s.ref <;> cases safe <;> simp [hg]
  · simp [hg]

theorem mem_buildSpec_append (ps : List Provider) (late : List (List Provider)) (s : Spec) (e : Entry) :
    e ∈ buildSpec (ps ++ late.flatten) s ↔
      e ∈ buildSpec ps s ∨ ∃ ls ∈ late, (∃ n, s.ref = .name n) ∧ e ∈ buildSpec ls s := by
  unfold buildSpec
  cases s.ref with
  | callable cb => simp
  | name n =>
    simp only [List.filterMap_append, List.filterMap_flatten, ← List.flatMap_def, List.mem_append,
      List.mem_flatMap, Ref.name.injEq, exists_eq', true_and]

/-- all candidates of an executor, the constructor's pass first, then the late passes in order (`executor_eq`) -/
def allEntries (specs : List Spec) (ctor : List Provider) (late : List (List Provider)) (g : Group) :
    List Entry :=
  passEntries false ctor g specs ++ late.flatMap fun ls => passEntries true ls g specs

theorem executor_eq (specs : List Spec) (ctor : List Provider) (late : List (List Provider)) (g : Group) :
    executor specs ctor late g = (allEntries specs ctor late g).foldl add [] := by
  simp only [executor, allEntries, List.foldl_append, List.foldl_flatMap, resolveInto_eq]

theorem executor_snoc (specs : List Spec) (ctor : List Provider) (late : List (List Provider))
    (ls : List Provider) (g : Group) :
    executor specs ctor (late ++ [ls]) g = (passEntries true ls g specs).foldl add (executor specs ctor late g) := by
  simp [executor, List.foldl_append, resolveInto_eq]

theorem mem_allEntries (specs : List Spec) (ctor : List Provider) (late : List (List Provider)) (g : Group)
    (e : Entry) :
    e ∈ allEntries specs ctor late g ↔ ∃ s ∈ specs, s.group = g ∧ e ∈ buildSpec (ctor ++ late.flatten) s := by
  simp only [allEntries, List.mem_append, List.mem_flatMap, mem_passEntries, mem_buildSpec_append]
  constructor
  · rintro (⟨s, hs, hg, _, h⟩ | ⟨ls, hls, s, hs, hg, hn, h⟩)
    · exact ⟨s, hs, hg, .inl h⟩
    · exact ⟨s, hs, hg, .inr ⟨ls, hls, hn trivial, h⟩⟩
  · rintro ⟨s, hs, hg, h | ⟨ls, hls, hn, h⟩⟩
    · exact .inl ⟨s, hs, hg, nofun, h⟩
    · exact .inr ⟨ls, hls, s, hs, hg, fun _ => hn, h⟩

end SMV.Reg
