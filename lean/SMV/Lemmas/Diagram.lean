import SMV.Model.Diagram
/-!
# Lemmas about the diagram model

Closed forms of the node list and the edge list of a graph that `getGraph` returns
(`nodes_of_ok`, `edges_of_ok`), when `getGraph` succeeds (`getGraph_eq_ok`), and `lookupValue` as a
`find?` (`Store.lookupFrom` is the same function on indexed values, with the same lemma in
`Lemmas/Store.lean`; the diagram model imports nothing, so that its driver compiles natively, and
has its own).
-/

namespace SMV.Diagram

theorem transItems_nodes (s : StateDef) (ts : List TransDef) :
    (transItems s ts).filterMap Item.node? = [] := by
  induction ts with
  | nil => rfl
  | cons t ts ih =>
    unfold transItems
    split <;> exact ih

theorem transItems_edges (s : StateDef) (ts : List TransDef) :
    (transItems s ts).filterMap Item.edge? = (ts.filter (fun t => !t.internal)).map (transEdge s) := by
  induction ts with
  | nil => rfl
  | cons t ts ih =>
    unfold transItems
    split
    · rename_i h; simp [h, ih]
    · rename_i h; simp [h, ← ih, Item.edge?]

theorem stateItems_nodes (cur : Option StateDef) (ss : List StateDef) :
    (stateItems cur ss).filterMap Item.node? = ss.map (stateNode cur) := by
  induction ss with
  | nil => rfl
  | cons s ss ih =>
    rw [stateItems, List.filterMap_cons_some (by rfl), List.filterMap_append, transItems_nodes, ih]
    rfl

/-- the edges `stateItems` emits for one state -/
def stateEdges (s : StateDef) : List Edge :=
  (s.trans.filter (fun t => !t.internal)).map (transEdge s)

theorem stateItems_edges (cur : Option StateDef) (ss : List StateDef) :
    (stateItems cur ss).filterMap Item.edge? = ss.flatMap stateEdges := by
  induction ss with
  | nil => rfl
  | cons s ss ih =>
    rw [stateItems, List.filterMap_cons_none (by rfl), List.filterMap_append, transItems_edges, ih,
      List.flatMap_cons]
    rfl

theorem build_nodes (m : Machine) (ini : StateDef) (cur : Option StateDef) :
    (build m ini cur).nodes = initNode :: m.states.map (stateNode cur) :=
  congrArg (initNode :: ·) (stateItems_nodes cur m.states)

theorem build_edges (m : Machine) (ini : StateDef) (cur : Option StateDef) :
    (build m ini cur).edges = initEdge ini :: m.states.flatMap stateEdges :=
  congrArg (initEdge ini :: ·) (stateItems_edges cur m.states)

theorem mem_stateEdges {ss : List StateDef} {e : Edge} :
    e ∈ ss.flatMap stateEdges ↔ ∃ s ∈ ss, ∃ t ∈ s.trans, t.internal = false ∧ transEdge s t = e := by
  simp only [List.mem_flatMap, stateEdges, List.mem_map, List.mem_filter, Bool.not_eq_true', and_assoc]

theorem lookupValue_eq (ss : List StateDef) (v : String) :
    lookupValue ss v = ss.reverse.find? (·.value = v) := by
  induction ss with
  | nil => rfl
  | cons s ss ih =>
    simp only [lookupValue, ih, List.reverse_cons, List.find?_append]
    cases ss.reverse.find? (·.value = v) with
    | some c => rfl
    | none => by_cases h : s.value = v <;> simp [h]

theorem lookupValue_some {ss : List StateDef} {v : String} {c : StateDef}
    (h : lookupValue ss v = some c) : c ∈ ss ∧ c.value = v := by
  rw [lookupValue_eq] at h
  exact ⟨List.mem_reverse.mp (List.mem_of_find?_eq_some h), by simpa using List.find?_some h⟩

theorem lookupValue_isSome {ss : List StateDef} {v : String} :
    (lookupValue ss v).isSome ↔ ∃ s ∈ ss, s.value = v := by
  simp [lookupValue_eq]

theorem lookupValue_map (f : StateDef → StateDef) (hf : ∀ s, (f s).value = s.value)
    (ss : List StateDef) (v : String) :
    lookupValue (ss.map f) v = (lookupValue ss v).map f := by
  simp only [lookupValue_eq, ← List.map_reverse, List.find?_map, Function.comp_def, hf]

/-- the state `getGraph` compares every node with (`_current_state()`) -/
def currentOf (m : Machine) : Subject → Option StateDef
  | .cls => none
  | .inst v => lookupValue m.states v
  | .unset => none

theorem getGraph_eq_ok {m : Machine} {sub : Subject} {g : Graph} :
    getGraph m sub = .ok g ↔ ∃ ini, initialState m = some ini ∧
      (∀ v, sub = .inst v → (lookupValue m.states v).isSome) ∧ build m ini (currentOf m sub) = g := by
  unfold getGraph
  cases initialState m with
  | none => simp
  | some ini =>
    simp only [Option.some.injEq, exists_eq_left']
    cases sub with
    | inst v => cases h : lookupValue m.states v <;> simp [currentOf, h]
    | _ => simp [currentOf]

theorem nodes_of_ok {m : Machine} {sub : Subject} {g : Graph} (h : getGraph m sub = .ok g) :
    g.nodes = initNode :: m.states.map (stateNode (currentOf m sub)) := by
  obtain ⟨ini, _, _, rfl⟩ := getGraph_eq_ok.mp h
  exact build_nodes ..

theorem mem_nodes_of_ok {m : Machine} {sub : Subject} {g : Graph} (h : getGraph m sub = .ok g) {n : Node} :
    n ∈ g.nodes ↔ n = initNode ∨ ∃ s ∈ m.states, stateNode (currentOf m sub) s = n := by
  rw [nodes_of_ok h, List.mem_cons, List.mem_map]

theorem edges_of_ok {m : Machine} {sub : Subject} {g : Graph} (h : getGraph m sub = .ok g) :
    ∃ ini, initialState m = some ini ∧ g.edges = initEdge ini :: m.states.flatMap stateEdges := by
  obtain ⟨ini, hini, _, rfl⟩ := getGraph_eq_ok.mp h
  exact ⟨ini, hini, build_edges ..⟩

theorem initialState_some {m : Machine} {ini : StateDef} (h : initialState m = some ini) :
    ini ∈ m.states ∧ ini.initial = true := by
  unfold initialState at h
  exact ⟨List.mem_of_find?_eq_some h, by simpa using List.find?_some h⟩

theorem initialState_isSome {m : Machine} :
    (initialState m).isSome ↔ ∃ s ∈ m.states, s.initial = true := by
  simp [initialState]

end SMV.Diagram
