import SMV.Lemmas.DeclBasic
/-!
# Style rewrites that are *equalities* of elaboration, and their congruence

`TExpr.Eqv` and `Stmts.Eqv` are congruences for every context, so a rewrite proved here may be applied
anywhere in a program. Of the styles listed in `Props/C15.lean`, (a)–(d) and (g) are here.
-/
namespace SMV.Decl

def TExpr.Eqv (a b : TExpr) : Prop := ∀ c, evalT c a = evalT c b

def Stmts.Eqv (s s' : List Stmt) : Prop := ∀ c, elabBody c s = elabBody c s'

theorem TExpr.Eqv.refl (a : TExpr) : TExpr.Eqv a a := fun _ => rfl
theorem TExpr.Eqv.symm {a b : TExpr} (h : TExpr.Eqv a b) : TExpr.Eqv b a := fun c => (h c).symm
theorem TExpr.Eqv.trans {a b c : TExpr} (h1 : TExpr.Eqv a b) (h2 : TExpr.Eqv b c) : TExpr.Eqv a c :=
  fun x => (h1 x).trans (h2 x)

theorem TExpr.Eqv.or {a a' b b' : TExpr} (ha : TExpr.Eqv a a') (hb : TExpr.Eqv b b') :
    TExpr.Eqv (.or a b) (.or a' b') := by
  intro c
  simp only [evalT, ha c, hb (evalT c a').1]

/-- a transition expression with a hole: the hole is anywhere under `|` -/
inductive TCtx
  | hole
  | orL (c : TCtx) (b : TExpr)
  | orR (a : TExpr) (c : TCtx)

def TCtx.fill : TCtx → TExpr → TExpr
  | .hole, e => e
  | .orL c b, e => .or (c.fill e) b
  | .orR a c, e => .or a (c.fill e)

theorem TCtx.congr (C : TCtx) {e e' : TExpr} (h : TExpr.Eqv e e') : TExpr.Eqv (C.fill e) (C.fill e') := by
  induction C with
  | hole => exact h
  | orL c b ih => exact ih.or (TExpr.Eqv.refl b)
  | orR a c ih => exact (TExpr.Eqv.refl a).or ih

/-- a statement with a hole for a transition expression -/
inductive SCtx
  | assign (attr : Name) (C : TCtx)
  | bare (C : TCtx)
  | eventOf (attr : Name) (C : TCtx)
  | decorated (C : TCtx) (fname : Name) (cb : CbId)

def SCtx.fill : SCtx → TExpr → Stmt
  | .assign a C, e => .assign a (C.fill e)
  | .bare C, e => .bare (C.fill e)
  | .eventOf a C, e => .eventOf a (C.fill e)
  | .decorated C f cb, e => .decorated (C.fill e) f cb

theorem SCtx.congr (S : SCtx) {e e' : TExpr} (h : TExpr.Eqv e e') : Stmts.Eqv [S.fill e] [S.fill e'] := by
  intro c
  cases S <;> simp only [SCtx.fill, elabBody, List.foldl, elabStmt, TCtx.congr _ h c]

theorem Stmts.Eqv.refl (s : List Stmt) : Stmts.Eqv s s := fun _ => rfl
theorem Stmts.Eqv.symm {a b : List Stmt} (h : Stmts.Eqv a b) : Stmts.Eqv b a := fun c => (h c).symm
theorem Stmts.Eqv.trans {a b c : List Stmt} (h1 : Stmts.Eqv a b) (h2 : Stmts.Eqv b c) : Stmts.Eqv a c :=
  fun x => (h1 x).trans (h2 x)

theorem elabBody_append (c : Cls) (p q : List Stmt) : elabBody c (p ++ q) = elabBody (elabBody c p) q :=
  List.foldl_append

/-- interchangeable statements may be exchanged between any surrounding statements -/
theorem Stmts.Eqv.context {s s' : List Stmt} (h : Stmts.Eqv s s') (p q : List Stmt) :
    Stmts.Eqv (p ++ s ++ q) (p ++ s' ++ q) := by
  intro c
  simp only [elabBody_append]
  rw [h (elabBody c p)]

theorem elabProg_congr {p p' : List Stmt} (h : Stmts.Eqv p p') (pre post : List (List Stmt)) :
    elabProg (pre ++ [p] ++ post) = elabProg (pre ++ [p'] ++ post) := by
  simp only [elabProg, List.foldl_append, List.foldl_cons, List.foldl_nil, elabClass, h (startClass _)]

/-- (a) `a.to(b, kw)` ↔ `b.from_(a, kw)` -/
theorem to_eq_from (a b : Name) (kw : Kw) : TExpr.Eqv (.to a [b] kw) (.from_ b [a] kw) := fun _ => rfl

theorem TExpr.Eqv.of_flat {a b : TExpr} (ha : a.closed) (hb : b.closed) (h : a.flat = b.flat) : TExpr.Eqv a b :=
  fun c => by rw [evalT_flat a ha, evalT_flat b hb, h]

/-- (b) multi-target call ↔ `|` of calls -/
theorem to_split (s : Name) (ts₁ ts₂ : List Name) (kw : Kw) :
    TExpr.Eqv (.to s (ts₁ ++ ts₂) kw) (.or (.to s ts₁ kw) (.to s ts₂ kw)) :=
  .of_flat trivial ⟨trivial, trivial⟩ List.map_append

/-- (b) multi-source call ↔ `|` of calls -/
theorem from_split (t : Name) (ss₁ ss₂ : List Name) (kw : Kw) :
    TExpr.Eqv (.from_ t (ss₁ ++ ss₂) kw) (.or (.from_ t ss₁ kw) (.from_ t ss₂ kw)) :=
  .of_flat trivial ⟨trivial, trivial⟩ List.map_append

/-- (b) with two targets -/
theorem to_two (a b c : Name) (kw : Kw) :
    TExpr.Eqv (.to a [b, c] kw) (.or (.to a [b] kw) (.to a [c] kw)) := to_split a [b] [c] kw

/-- (b) with two sources -/
theorem from_two (a b c : Name) (kw : Kw) :
    TExpr.Eqv (.from_ c [a, b] kw) (.or (.from_ c [a] kw) (.from_ c [b] kw)) := from_split c [a] [b] kw

/-- (c) `a.to.itself(kw)` ↔ `a.to(a, kw)` -/
theorem toItself_eq (a : Name) (kw : Kw) : TExpr.Eqv (.toItself a kw) (.to a [a] kw) := fun _ => rfl
/-- (c) `a.from_.itself(kw)` ↔ `a.from_(a, kw)` -/
theorem fromItself_eq (a : Name) (kw : Kw) : TExpr.Eqv (.fromItself a kw) (.from_ a [a] kw) := fun _ => rfl

def TExpr.withEvent : TExpr → List EvItem → TExpr
  | .to s ts kw, it => .to s ts { kw with event := it }
  | .from_ t ss kw, it => .from_ t ss { kw with event := it }
  | .toItself s kw, it => .toItself s { kw with event := it }
  | .fromItself s kw, it => .fromItself s { kw with event := it }
  | .fromAny t kw, it => .fromAny t { kw with event := it }
  | e, _ => e

def TExpr.kwEvent : TExpr → List EvItem
  | .to _ _ kw => kw.event
  | .from_ _ _ kw => kw.event
  | .toItself _ kw => kw.event
  | .fromItself _ kw => kw.event
  | .fromAny _ kw => kw.event
  | _ => []

/-- (d) spellings of `event=` that `Events.add` reads alike: `spaced_eq_list`, `str_eq_obj`, `dup_event` -/
theorem event_spelling (e : TExpr) (items : List EvItem) (h : kwEvents e.kwEvent = kwEvents items) :
    TExpr.Eqv e (e.withEvent items) := by
  intro c
  cases e with
  | or _ _ | ref _ => rfl
  | _ =>
    -- both sides push the same transitions but for `kw.event`, which `mkT` reads through `kwEvents`
    simp only [TExpr.kwEvent] at h
    show push c _ = push c _
    simp only [mkT, h]

/-- `event="e1 e2"` ↔ `event=["e1", "e2"]` (any split point, any following items) -/
theorem spaced_eq_list (as bs : List Name) (rest : List EvItem) :
    kwEvents (.str (as ++ bs) :: rest) = kwEvents (.str as :: .str bs :: rest) := by
  simp only [kwEvents, List.flatMap_cons, evItemRefs, List.map_append, List.append_assoc]

/-- `"e1"` ↔ `Event("e1")` -/
theorem str_eq_obj (a : Name) (rest : List EvItem) :
    kwEvents (.str [a] :: rest) = kwEvents (.obj a :: rest) := rfl

/-- an id named twice is kept once -/
theorem dup_event (a : Name) : kwEvents [.str [a, a]] = kwEvents [.str [a]] :=
  addEv_addEv [] (.real a none)

theorem states_individually (c : Cls) (ss : List SDecl) :
    elabBody c (ss.map .state) = addAttrs c (stateAttrs ss) := by
  induction ss generalizing c with
  | nil => exact congrArg (fun l => { c with attrs := l }) (List.append_nil _).symm
  | cons s ss ih =>
    -- `(attrs ++ [s]) ++ ss` against `attrs ++ s :: ss`
    exact (ih _).trans (congrArg (fun l => { c with attrs := l }) (List.append_assoc ..))

/-- (g) `States({...})` ↔ individual `State` attributes -/
theorem statesDict_eq (ss : List SDecl) : Stmts.Eqv [.statesDict ss] (ss.map .state) := by
  intro c
  rw [states_individually]
  rfl

/-- (g) `States.from_enum(...)` ↔ individual `State` attributes -/
theorem statesEnum_eq (ms : List (Name × Val)) (i : Name) (fs : List Name) :
    Stmts.Eqv [.statesEnum ms i fs] ((enumStates ms i fs).map .state) :=
  statesDict_eq (enumStates ms i fs)

end SMV.Decl
