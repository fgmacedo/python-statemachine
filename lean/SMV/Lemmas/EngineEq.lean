import SMV.Model.Engine
/-!
# The engine's definitions, case by case

The equations the property files rewrite with. Where a definition ends in a `match` on the pair a sub-computation
returns, the equation is given on the components (`(r.1, g r.2)`), so that "the configuration is the
sub-computation's" needs no case split.
-/
namespace SMV

theorem EM.bind_eq {α β} (x : EM α) (f : α → EM β) (c : Cfg) :
    (x >>= f) c = match (x c).2 with
      | .ok a => f a (x c).1
      | .error e => ((x c).1, .error e) := by
  rw [EM.bind_apply]; rcases x c with ⟨c1, r | r⟩ <;> rfl

theorem EM.bind_ok {α β} {x : EM α} {f : α → EM β} {c : Cfg} {a : α} (h : (x c).2 = .ok a) :
    (x >>= f) c = f a (x c).1 := by rw [EM.bind_eq, h]

theorem EM.bind_err {α β} {x : EM α} {f : α → EM β} {c : Cfg} {e : Exc} (h : (x c).2 = .error e) :
    (x >>= f) c = ((x c).1, .error e) := by rw [EM.bind_eq, h]

theorem EM.get_bind {β} (f : Cfg → EM β) (c : Cfg) : (EM.get >>= f) c = f c c := rfl

theorem EM.bind_pure_fst {α β} (x : EM α) (g : α → β) (c : Cfg) :
    ((x >>= fun a => pure (g a)) c).1 = (x c).1 := by
  rw [EM.bind_eq]; cases (x c).2 <;> rfl

theorem setState_snd (t : Trigger) (v : Val) (c : Cfg) : (setState t v c).2 = .ok () := rfl

/-- a convention callback scoped to an event contributes only when that event triggered -/
theorem mem_applicable (ev : EventId) (l : List CbSpec) (cb : CbId) :
    cb ∈ applicable ev l ↔ ∃ s ∈ l, s.id = cb ∧ (s.only = none ∨ s.only = some ev) := by
  simp only [applicable, List.mem_map, List.mem_filter]
  constructor
  · rintro ⟨s, ⟨hs, hf⟩, rfl⟩
    refine ⟨s, hs, rfl, ?_⟩
    cases ho : s.only with
    | none => exact Or.inl rfl
    | some e => rw [ho] at hf; simp at hf; exact Or.inr (by rw [hf])
  · rintro ⟨s, hs, rfl, ho⟩
    refine ⟨s, ⟨hs, ?_⟩, rfl⟩
    rcases ho with ho | ho <;> simp [ho]

theorem tryCands_cons_match {h : Nested} {m : Machine} {t : Trigger} {tr : Transn} {rest : List Transn}
    (hm : tr.events.contains t.event = true) :
    tryCands h m t (tr :: rest) = (activate h m t tr >>= fun r =>
      match r with
      | none => tryCands h m t rest
      | some r => pure (some r)) := by
  rw [tryCands, matchesEv, hm]; rfl

theorem tryCands_cons_skip {h : Nested} {m : Machine} {t : Trigger} {tr : Transn} {rest : List Transn}
    (hm : tr.events.contains t.event = false) :
    tryCands h m t (tr :: rest) = tryCands h m t rest := by
  rw [tryCands, matchesEv, hm]; rfl

/-- no transition of the list is bound to the event: the candidate loop does nothing at all —
for every handler (both processing modes), every configuration -/
theorem tryCands_no_match (h : Nested) (m : Machine) (t : Trigger) (trs : List Transn)
    (hno : ∀ tr ∈ trs, tr.events.contains t.event = false) (c : Cfg) :
    tryCands h m t trs c = (c, .ok none) := by
  induction trs with
  | nil => rfl
  | cons tr rest ih =>
    rw [tryCands_cons_skip (hno tr List.mem_cons_self)]
    exact ih fun tr' h' => hno tr' (.tail _ h')

theorem tryCands_filter_matches (h : Nested) (m : Machine) (t : Trigger) (l : List Transn) :
    tryCands h m t l = tryCands h m t (l.filter (matchesEv · t.event)) := by
  induction l with
  | nil => rfl
  | cons tr rest ih =>
    cases hm : matchesEv tr t.event with
    | true => rw [List.filter_cons, if_pos hm, tryCands_cons_match hm, tryCands_cons_match hm, ih]
    | false => rw [List.filter_cons, if_neg (hm ▸ Bool.false_ne_true), tryCands_cons_skip hm, ih]

theorem trigger_initial (h : Nested) (m : Machine) {t : Trigger} {c : Cfg}
    (he : t.event = initialEv) (hc : c.cur = none) :
    trigger h m t c = (activateInitial h m t >>= fun _ => pure none) c := by
  rw [trigger, EM.get_bind, he, hc]; rfl

theorem trigger_stale (h : Nested) (m : Machine) {t : Trigger} {c : Cfg}
    (he : t.event = initialEv) (hi : t.internal = true) (hc : c.cur.isNone = false) :
    trigger h m t c = (c, .ok none) := by
  rw [trigger, EM.get_bind, he, hi, hc]; rfl

/-- what the "not allowed" rule makes of the candidate loop's result -/
def finish (m : Machine) (t : Trigger) (s : StateId) : Except Exc (Option Res) → Except Exc (Option Res)
  | .ok (some r) => .ok (some r)
  | .ok none => if m.allow then .ok (some .none) else .error (.notAllowed t.event s)
  | .error e => .error e

theorem trigger_event (h : Nested) (m : Machine) {t : Trigger} {c : Cfg} {s : StateId}
    (hi : (t.event == initialEv) = false ∨ t.internal = false) (hs : c.cur.bind (lookupState m) = some s) :
    trigger h m t c = ((tryCands h m t (out m s) c).1, finish m t s (tryCands h m t (out m s) c).2) := by
  have hn : c.cur.isNone = false := by
    cases hc : c.cur with
    | none => rw [hc] at hs; cases hs
    | some _ => rfl
  rw [trigger, EM.get_bind, hn, Bool.and_eq_false_iff.2 hi, hs]
  simp only [Bool.and_false, Bool.false_eq_true, if_false]
  rw [EM.bind_eq]
  cases (tryCands h m t (out m s) c).2 with
  | error e => rfl
  | ok r =>
    cases r with
    | some r => rfl
    | none =>
      show _ = (_, if m.allow = true then _ else _)  -- `finish` unfolded, so that `cases` reaches its `m.allow`
      cases m.allow <;> rfl

theorem trigger_no_match (h : Nested) (m : Machine) {t : Trigger} {c : Cfg} {s : StateId}
    (hi : (t.event == initialEv) = false ∨ t.internal = false) (hs : c.cur.bind (lookupState m) = some s)
    (hno : ∀ tr ∈ out m s, tr.events.contains t.event = false) :
    trigger h m t c = (c, finish m t s (.ok none)) := by
  rw [trigger_event h m hi hs, tryCands_no_match h m t _ hno c]

theorem iter_succ {α} (f : α → α) (n : Nat) (a : α) : iter f (n + 1) a = f (iter f n a) := by
  induction n generalizing a with
  | zero => rfl
  | succ n ih => exact ih (f a)

theorem iter_pres {α} {f : α → α} {P : α → Prop} (hf : ∀ a, P a → P (f a)) (n : Nat) (a : α) (h : P a) :
    P (iter f n a) := by
  induction n generalizing a with
  | zero => exact h
  | succ n ih => exact ih _ (hf a h)

theorem drainStep_cons (m : Machine) {c : Cfg} {t : Trigger} {q : List Trigger} (hq : c.queue = t :: q) :
    drainStep m c =
      match (trigger nestedRtc m t { c with queue := q }).2 with
      | .ok _ => (trigger nestedRtc m t { c with queue := q }).1
      | .error _ => { (trigger nestedRtc m t { c with queue := q }).1 with queue := [] } := by
  simp only [drainStep, hq]
  rcases trigger nestedRtc m t { c with queue := q } with ⟨c1, _ | _⟩ <;> rfl

theorem drainStep_cur (m : Machine) {c : Cfg} {t : Trigger} {q : List Trigger} (hq : c.queue = t :: q) :
    (drainStep m c).cur = (trigger nestedRtc m t { c with queue := q }).1.cur := by
  rw [drainStep_cons m hq]; split <;> rfl

/-- the `except: clear; raise` of the loop -/
theorem drainStep_queue_of_error (m : Machine) {c : Cfg} {t : Trigger} {q : List Trigger} (hq : c.queue = t :: q)
    {e : Exc} (he : (trigger nestedRtc m t { c with queue := q }).2 = .error e) : (drainStep m c).queue = [] := by
  rw [drainStep_cons m hq, he]

theorem drainLoop_nil (m : Machine) (n : Nat) (first : Option Res) {c : Cfg} (hq : c.queue = []) :
    drainLoop m n first c = (c, .ok (first.getD .none)) := by
  cases n <;> (unfold drainLoop; rw [hq])

theorem drainLoop_cons (m : Machine) (n : Nat) (first : Option Res) {c : Cfg} {t : Trigger} {q : List Trigger}
    (hq : c.queue = t :: q) :
    drainLoop m (n + 1) first c =
      match (trigger nestedRtc m t { c with queue := q }).2 with
      | .ok r => drainLoop m n (orFirst first r) (trigger nestedRtc m t { c with queue := q }).1
      | .error e => ({ (trigger nestedRtc m t { c with queue := q }).1 with queue := [] }, .error e) := by
  simp only [drainLoop, hq]
  rcases trigger nestedRtc m t { c with queue := q } with ⟨c1, _ | _⟩ <;> rfl

theorem processRtc_unlocked (m : Machine) (fuel : Nat) {c : Cfg} (hl : c.locked = false) :
    processRtc m fuel c = ({ (drainLoop m fuel none { c with locked := true }).1 with locked := false },
      (drainLoop m fuel none { c with locked := true }).2) := by
  rw [processRtc, hl]; rfl

theorem popTrigger_nil (h : Nested) (m : Machine) {c : Cfg} (hq : c.queue = []) :
    popTrigger h m c = (c, .ok .none) := by
  rw [popTrigger, hq]

/-- `rtc=False`; the sentinel of the activation is read as `None` -/
theorem popTrigger_cons (h : Nested) (m : Machine) {c : Cfg} {t : Trigger} {q : List Trigger} (hq : c.queue = t :: q) :
    popTrigger h m c = ((trigger h m t { c with queue := q }).1,
      (trigger h m t { c with queue := q }).2.map (·.getD .none)) := by
  simp only [popTrigger, hq]
  rcases trigger h m t { c with queue := q } with ⟨c1, _ | _ | _⟩ <;> rfl

theorem start_some {c : Cfg} {v : Val} (hc : c.cur = some v) : start c = (c, .ok ()) := by
  rw [start, EM.get_bind, hc]; rfl

theorem start_none {c : Cfg} (hc : c.cur = none) : start c = enqueueActivation c := by
  rw [start, EM.get_bind, hc]; rfl

theorem start_ok (c : Cfg) : (start c).2 = .ok () := by
  cases hc : c.cur with
  | none => rw [start_none hc]; rfl
  | some v => rw [start_some hc]

end SMV
