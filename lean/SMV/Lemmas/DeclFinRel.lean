import SMV.Lemmas.DeclBasic
/-!
# `t.from_.any(kw)` versus `t.from_(s₁, …, sₖ, kw)` (rewrite (f) of C15): the relation that is kept

`FinRel e c₁ c₂`: the two classes after the event `e` has been defined — same registration data; the
stores agree on a common part `S`, `B` and differ in that `c₁` holds the `AnyState` transition and,
at the end, its expansions `C`, where `c₂` holds the explicit transitions `X'` in place.
It is kept by the metaclass steps that follow (`_update_event_references`, registering a state that
no transition leaves) and implies `≈`.
-/
namespace SMV.Decl

/-- what `≈` compares of a transition, with its source -/
def srcCand (t : TDef) : Src × Cand := (t.source, cand t)

structure FinRel (e : Name) (c₁ c₂ : Cls) : Prop where
  states : c₁.states = c₂.states
  events : c₁.events = c₂.events
  pending : c₁.pending = c₂.pending
  err : c₁.err = c₂.err
  shape : ∃ S tA' B C X', c₁.trans = S ++ tA' :: (B ++ C) ∧ c₂.trans = S ++ (X' ++ B) ∧
    tA'.source = .any ∧ noPh tA' ∧
    (∀ t ∈ B, noPh t ∧ e ∉ finalEvents t) ∧
    (∀ t ∈ C, noPh t ∧ finalEvents t = [e]) ∧
    (∀ t ∈ X', noPh t ∧ finalEvents t = [e]) ∧
    C.map srcCand = X'.map srcCand

theorem any_holdsPh (c : Cls) (v : Name) (l : List TDef) (hl : ∀ t ∈ l, noPh t) :
    (l.any fun t => registered c t && holdsPh t v) = false := by
  simp only [List.any_eq_false, Bool.and_eq_true, not_and]
  intro t ht _
  simp [hl t ht v]

theorem registered_states {c₁ c₂ : Cls} (h : c₁.states = c₂.states) : registered c₁ = registered c₂ := by
  funext t
  simp only [registered, h]

theorem replacePh_states {c₁ c₂ : Cls} (h : c₁.states = c₂.states) : replacePh c₁ = replacePh c₂ := by
  funext v x t
  simp only [replacePh, registered_states h]

theorem FinRel.updateRef {e : Name} {c₁ c₂ : Cls} (h : FinRel e c₁ c₂) (p : Name × Option EvRef) :
    FinRel e (updateRef c₁ p) (updateRef c₂ p) := by
  obtain ⟨S, tA', B, C, X', h1, h2, hA, hAp, hB, hC, hX, hm⟩ := h.shape
  have hB' := fun t ht => (hB t ht).1
  have hC' := fun t ht => (hC t ht).1
  have hX' := fun t ht => (hX t ht).1
  obtain ⟨v, x⟩ := p
  cases x with
  | none =>
    -- the placeholder can only be found in `S`
    have key : (c₁.trans.any fun t => registered c₁ t && holdsPh t v) =
        (c₂.trans.any fun t => registered c₂ t && holdsPh t v) := by
      simp only [h1, h2, registered_states h.states, List.any_append, List.any_cons, hAp v, any_holdsPh _ _ _ hB',
        any_holdsPh _ _ _ hC', any_holdsPh _ _ _ hX', Bool.and_false, Bool.or_false]
    simp only [SMV.Decl.updateRef, key]
    split
    · exact ⟨h.states, h.events, h.pending, rfl, h.shape⟩
    · exact h
  | some x =>
    refine ⟨h.states, h.events, h.pending, h.err, S.map (replacePh c₂ v x), tA', B, C, X', ?_, ?_,
      hA, hAp, hB, hC, hX, hm⟩
    · have hgA : replacePh c₂ v x tA' = tA' := by simp [replacePh, hAp v]
      simp only [updateRef_some, h1, replacePh_states h.states, List.map_append, List.map_cons, hgA,
        map_replacePh _ _ _ _ hB', map_replacePh _ _ _ _ hC']
    · simp only [updateRef_some, h2, List.map_append, map_replacePh _ _ _ _ hB', map_replacePh _ _ _ _ hX']

theorem FinRel.updateRefs {e : Name} {c₁ c₂ : Cls} (h : FinRel e c₁ c₂) :
    FinRel e (updateRefs c₁) (updateRefs c₂) := by
  have h1 := List.foldl_rel (r := FinRel e) (l := c₁.pending) h fun p _ _ _ h => h.updateRef p
  unfold SMV.Decl.updateRefs
  rw [← h.pending]
  exact ⟨h1.states, h1.events, rfl, h1.err, h1.shape⟩

theorem FinRel.regEv {e : Name} {c₁ c₂ : Cls} (h : FinRel e c₁ c₂) (id : Name) :
    FinRel e (regEv c₁ id) (regEv c₂ id) := by
  unfold SMV.Decl.regEv
  rw [h.events]
  split
  · exact h
  · exact ⟨h.states, rfl, h.pending, h.err, h.shape⟩

/-- an entry of `X'` has the source of an entry of `C` -/
theorem FinRel.source_ne {e : Name} {c₁ c₂ : Cls} (h : FinRel e c₁ c₂) {s : Name}
    (h1 : ∀ t ∈ c₁.trans, t.source ≠ .st s) : ∀ t ∈ c₂.trans, t.source ≠ .st s := by
  obtain ⟨S, tA', B, C, X', e1, e2, _, _, _, _, _, hm⟩ := h.shape
  intro t ht
  rw [e1] at h1
  rcases List.mem_append.mp (e2 ▸ ht) with hS | hXB
  · exact h1 t (List.mem_append_left _ hS)
  rcases List.mem_append.mp hXB with hX | hB
  · obtain ⟨t', ht', e⟩ := List.mem_map.mp (hm ▸ List.mem_map_of_mem (f := srcCand) hX)
    have : t'.source = t.source := congrArg Prod.fst e
    exact this ▸ h1 t' (List.mem_append_right _ (.tail _ (List.mem_append_right _ ht')))
  · exact h1 t (List.mem_append_right _ (.tail _ (List.mem_append_left _ hB)))

theorem FinRel.foldl_addState {e : Name} (fs : List SDecl) {c₁ c₂ : Cls} (h : FinRel e c₁ c₂)
    (h1 : ∀ f ∈ fs, ∀ t ∈ c₁.trans, t.source ≠ .st f.name) :
    FinRel e (fs.foldl SMV.Decl.addState c₁) (fs.foldl SMV.Decl.addState c₂) := by
  refine (List.foldl_rel (r := fun c₁ c₂ => FinRel e c₁ c₂ ∧ ∀ f ∈ fs, ∀ t ∈ c₁.trans, t.source ≠ .st f.name)
    ⟨h, h1⟩ fun f hf c₁ c₂ h => ?_).1
  rw [addState_of_source_ne c₁ f (h.2 f hf), addState_of_source_ne c₂ f (h.1.source_ne (h.2 f hf))]
  exact ⟨⟨by simp [h.1.states], h.1.events, h.1.pending, h.1.err, h.1.shape⟩, h.2⟩

/-- `cands` as a function of the store alone, so that it can be split along `++` -/
def candsOf (l : List TDef) (s e : Name) : List Cand :=
  ((l.filter (·.source == .st s)).filter (fun t => (finalEvents t).contains e)).map cand

theorem candsOf_append (l₁ l₂ : List TDef) (s e : Name) :
    candsOf (l₁ ++ l₂) s e = candsOf l₁ s e ++ candsOf l₂ s e := by
  simp [candsOf, List.filter_append]

theorem candsOf_nil_of {l : List TDef} {s x : Name} (h : ∀ t ∈ l, x ∉ finalEvents t) : candsOf l s x = [] := by
  simp only [candsOf, List.map_eq_nil_iff, List.filter_eq_nil_iff, List.mem_filter]
  intro t ht
  simpa using h t ht.1

/-- entries that carry exactly the event `e`: their candidates are a function of `l.map srcCand` -/
theorem candsOf_single {l : List TDef} {e : Name} (hl : ∀ t ∈ l, finalEvents t = [e]) (s x : Name) :
    candsOf l s x = if x = e then ((l.map srcCand).filter (·.1 == .st s)).map (·.2) else [] := by
  split
  · subst x
    rw [candsOf, List.filter_eq_self.mpr (fun t ht => by simp [hl t (List.mem_filter.mp ht).1]),
      List.filter_map, List.map_map]
    rfl
  · exact candsOf_nil_of (fun t ht => by rw [hl t ht]; simpa using ‹¬x = e›)

theorem FinRel.cands {e : Name} {c₁ c₂ : Cls} (h : FinRel e c₁ c₂) (s x : Name) :
    cands c₁ s x = cands c₂ s x := by
  obtain ⟨S, tA', B, C, X', h1, h2, hA, _, hB, hC, hX, hm⟩ := h.shape
  show candsOf c₁.trans s x = candsOf c₂.trans s x
  have hAny : candsOf [tA'] s x = [] := by simp [candsOf, hA]
  rw [h1, h2, show S ++ tA' :: (B ++ C) = S ++ ([tA'] ++ (B ++ C)) from rfl]
  simp only [candsOf_append, hAny, List.nil_append, candsOf_single (fun t ht => (hC t ht).2),
    candsOf_single (fun t ht => (hX t ht).2), hm]
  -- the entries of `B` do not carry `e`, so the block may stand on either side of them
  split
  · subst x
    rw [candsOf_nil_of (fun t ht => (hB t ht).2), List.nil_append, List.append_nil]
  · rw [List.nil_append, List.append_nil]

theorem FinRel.equiv {e : Name} {c₁ c₂ : Cls} (h : FinRel e c₁ c₂) : Equiv c₁ c₂ :=
  ⟨h.states, fun x => by rw [h.events], fun s _ x => h.cands s.name x, h.err⟩

end SMV.Decl
