import SMV.Lemmas.DeclBasic
/-!
`add_from_attributes` is a fold of `processAttr`, which is `addState` or `addEvent`, which are folds of
four moves on (store, registered states): add an event to a listed entry; append the expansions of a
listed `AnyState` entry; register a state; change `_events`/`_events_to_update` only.
`Kept A S J`: the predicate `J` survives these moves as long as the events defined satisfy `A` and the
states registered satisfy `S` (`False` for `addEvent` and its folds, which register none). Then it
survives `onEventDefined … foldl processAttr`, for attributes that are `attrOk A S`.
-/
namespace SMV.Decl

structure Kept (A : EvRef → Prop) (S : SDecl → Prop) (J : Cls → Prop) : Prop where
  /-- `J` speaks of the store, the registered states and the namespace only -/
  congr : ∀ {c c' : Cls}, c'.trans = c.trans → c'.states = c.states → c'.attrs = c.attrs → J c → J c'
  event : ∀ {c : Cls} {ev : EvRef} {i : Nat}, J c → A ev → i ∈ ev.tl →
    J { c with trans := modifyAt (fun t => { t with events := addEv t.events ev }) c.trans i }
  expand : ∀ {c : Cls} {ev : EvRef} {i : Nat} {t : TDef}, J c → A ev → i ∈ ev.tl →
    c.trans[i]? = some t → t.source = .any →
    J (push c ((c.states.filter (!·.final)).map fun s => copyFor t s.name ev)).1
  state : ∀ {c : Cls} {s : SDecl}, J c → S s → J { c with states := c.states ++ [s] }
  /-- the events `add_state` finds on the transitions of an admissible state are admissible -/
  found : ∀ {c : Cls} {s : SDecl}, J c → S s → ∀ t ∈ c.trans, t.source = .st s.name → ∀ ev ∈ t.events, A ev

def attrOk (A : EvRef → Prop) (S : SDecl → Prop) : Name × AttrVal → Prop
  | (_, .state s) => S s
  | (k, .tl idxs) => A (.real k (some idxs))
  | (k, .event tl) => A (.real k (normTl tl))

theorem attrOk.mono {A A' : EvRef → Prop} {S S' : SDecl → Prop} {a : Name × AttrVal} (h : attrOk A S a)
    (hA : ∀ ev, A ev → A' ev) (hS : ∀ s, S s → S' s) : attrOk A' S' a := by
  obtain ⟨k, v⟩ := a
  cases v with
  | state s => exact hS s h
  | tl idxs => exact hA _ h
  | event tl => exact hA _ h

section
variable {A : EvRef → Prop} {S : SDecl → Prop} {J : Cls → Prop}

theorem Kept.onEventDefined (K : Kept A S J) {c : Cls} (h : J c) {id : Name} {idxs : List Nat}
    (hA : A (.real id (some idxs))) : J (Decl.onEventDefined c id idxs) := by
  -- the expansions are over `c.states`, which no expansion changes
  refine (idxs.foldlRecOn (motive := fun c' => c'.states = c.states ∧ J c') _ ⟨rfl, ?_⟩ fun c' h' i hi => ?_).2
  · exact idxs.foldlRecOn (motive := fun l => J { c with trans := l }) _ h fun _ hl _ hi => K.event hl hA hi
  · refine ⟨(expandAny_states ..).trans h'.1, ?_⟩
    rcases expandAny_eq (.real id (some idxs)) c.states c' i with e | ⟨t, ht, hany, e⟩ <;> rw [e]
    · exact h'.2
    · exact h'.1 ▸ K.expand h'.2 hA hi ht hany

theorem Kept.addEvent (K : Kept A S J) {c : Cls} (h : J c) {ev : EvRef} (hA : A ev) : J (Decl.addEvent c ev) := by
  cases ev with
  | ph v => exact K.congr (addEvent_ph_frame c v).1 (addEvent_ph_frame c v).2.1 (addEvent_ph_frame c v).2.2 h
  | real id tl =>
    rw [addEvent_real]
    refine K.congr (regEv_frame ..).1 (regEv_frame ..).2.1 (regEv_frame ..).2.2 ?_
    cases tl with
    | none => exact h
    | some idxs => exact K.onEventDefined h hA

theorem Kept.foldl_addEvent (K : Kept A S J) (evs : List EvRef) {c : Cls} (h : J c)
    (hA : ∀ ev ∈ evs, A ev) : J (evs.foldl Decl.addEvent c) :=
  evs.foldlRecOn _ h fun _ hc ev hev => K.addEvent hc (hA ev hev)

theorem Kept.addState (K : Kept A S J) {c : Cls} (h : J c) {s : SDecl} (hs : S s) : J (Decl.addState c s) := by
  have h1 := K.state h hs
  refine K.foldl_addEvent _ h1 fun ev hev => ?_
  obtain ⟨t, ht, hx⟩ := mem_uniqueEvents hev
  have ht := List.mem_filter.mp ht
  exact K.found h1 hs t ht.1 (by simpa using ht.2) ev hx

theorem Kept.processAttr (K : Kept A S J) {c : Cls} (h : J c) {a : Name × AttrVal} (ha : attrOk A S a) :
    J (Decl.processAttr c a) := by
  obtain ⟨k, v⟩ := a
  cases v with
  | state s => exact K.addState h ha
  | tl idxs => exact K.addEvent h ha
  | event tl =>
    unfold Decl.processAttr
    exact K.congr (c := Decl.addEvent c _) rfl rfl rfl (K.addEvent h ha)

theorem Kept.foldl_processAttr (K : Kept A S J) (attrs : List (Name × AttrVal)) {c : Cls} (h : J c)
    (ha : ∀ a ∈ attrs, attrOk A S a) : J (attrs.foldl Decl.processAttr c) :=
  attrs.foldlRecOn _ h fun _ hc a hm => K.processAttr hc (ha a hm)

end

theorem kept_length (k : Nat) : Kept (fun _ => True) (fun _ => True) (fun c => k ≤ c.trans.length) where
  congr ht _ _ h := ht ▸ h
  event h _ _ := by simpa [modifyAt] using h
  expand h _ _ _ _ := by rw [push_length]; exact Nat.le_add_right_of_le h
  state h _ := h
  found _ _ _ _ _ _ _ := trivial

theorem foldl_addEvent_length (evs : List EvRef) (c : Cls) :
    c.trans.length ≤ (evs.foldl addEvent c).trans.length :=
  (kept_length c.trans.length).foldl_addEvent evs (Nat.le_refl _) (fun _ _ => trivial)

theorem kept_states (sts : List SDecl) : Kept (fun _ => True) (fun _ => False) (fun c => c.states = sts) where
  congr _ hs _ h := hs ▸ h
  event h _ _ := h
  expand h _ _ _ _ := h
  state _ hs := hs.elim
  found _ hs := hs.elim

theorem addEvent_states (c : Cls) (ev : EvRef) : (addEvent c ev).states = c.states :=
  (kept_states c.states).addEvent rfl trivial

theorem foldl_addEvent_states (evs : List EvRef) (c : Cls) : (evs.foldl addEvent c).states = c.states :=
  (kept_states c.states).foldl_addEvent evs rfl (fun _ _ => trivial)

def declared (attrs : List (Name × AttrVal)) : List SDecl :=
  attrs.filterMap fun | (_, .state s) => some s | _ => none

theorem declared_append (a b : List (Name × AttrVal)) : declared (a ++ b) = declared a ++ declared b :=
  List.filterMap_append

theorem addState_states (c : Cls) (s : SDecl) : (addState c s).states = c.states ++ [s] :=
  foldl_addEvent_states _ _

theorem processAttr_states (c : Cls) (a : Name × AttrVal) :
    (processAttr c a).states = c.states ++ declared [a] := by
  obtain ⟨k, v⟩ := a
  cases v with
  | state s => exact addState_states c s
  | tl idxs => exact (addEvent_states c _).trans (List.append_nil _).symm
  -- unfolded first: left to itself the unifier goes through `addEvent`
  | event tl => rw [processAttr]; exact (addEvent_states c _).trans (List.append_nil _).symm

theorem foldl_processAttr_states (attrs : List (Name × AttrVal)) (c : Cls) :
    (attrs.foldl processAttr c).states = c.states ++ declared attrs := by
  induction attrs generalizing c with
  | nil => exact (List.append_nil _).symm
  | cons a as ih => rw [List.foldl_cons, ih, processAttr_states, List.append_assoc, ← declared_append]; rfl

theorem kept_sources (P : Src → Prop) : Kept (fun _ => True) (fun s => P (.st s.name))
    (fun c => (∀ t ∈ c.trans, P t.source) ∧ ∀ s ∈ c.states, P (.st s.name)) where
  congr ht hs _ h := ⟨fun t ht' => h.1 t (ht ▸ ht'), fun s hs' => h.2 s (hs ▸ hs')⟩
  event {_ ev _} h _ _ := ⟨forall_modify (P := fun t => P t.source)
    (f := fun t => { t with events := addEv t.events ev }) (fun _ h => h) h.1 _, h.2⟩
  expand h _ _ _ _ := ⟨List.forall_mem_append.mpr
    ⟨h.1, List.forall_mem_map.mpr fun s hs => h.2 s (List.mem_filter.mp hs).1⟩, h.2⟩
  state h hs := ⟨h.1, List.forall_mem_append.mpr ⟨h.2, List.forall_mem_singleton.mpr hs⟩⟩
  found _ _ _ _ _ _ _ := trivial

theorem foldl_processAttr_source_ne {c : Cls} {f : Name} (attrs : List (Name × AttrVal))
    (ht : ∀ t ∈ c.trans, t.source ≠ .st f) (hs : ∀ s ∈ c.states, s.name ≠ f)
    (ha : ∀ s ∈ declared attrs, s.name ≠ f) : ∀ t ∈ (attrs.foldl processAttr c).trans, t.source ≠ .st f :=
  ((kept_sources (· ≠ .st f)).foldl_processAttr attrs (c := c)
    ⟨ht, fun s hs' e => hs s hs' (Src.st.inj e)⟩ fun a ha' => by
      obtain ⟨k, v⟩ := a
      cases v with
      | state s => exact fun e => ha s (List.mem_filterMap.mpr ⟨_, ha', rfl⟩) (Src.st.inj e)
      | tl idxs => trivial
      | event tl => trivial).1

/-- for `Inv`: `n` is the position of the `AnyState` entry, `names` the attributes that define lists -/
def okEv (n : Nat) (names : List Name) : EvRef → Prop
  | .real k (some idxs) => k ∈ names ∧ ∀ i ∈ idxs, i < n
  | _ => True

/-- no transition list: all a class body creates (only the metaclass attaches lists). Spelt as the
instance of `okEv` that no list meets, which implies every other one. -/
def plainEv (ev : EvRef) : Prop := okEv 0 [] ev

/-- for `kept_frame`: the transition list points beyond the base's store -/
def hiEv (n : Nat) (ev : EvRef) : Prop := ∀ i ∈ ev.tl, n ≤ i

abbrev okAttr (n : Nat) (names : List Name) : Name × AttrVal → Prop := attrOk (okEv n names) (fun _ => True)

theorem eq_real_of_mem_tl {ev : EvRef} {i : Nat} (h : i ∈ ev.tl) : ∃ k idxs, ev = .real k (some idxs) := by
  cases ev with
  | ph v => cases h
  | real k tl => cases tl with
    | none => cases h
    | some idxs => exact ⟨k, idxs, rfl⟩

theorem okEv.tl_lt {n : Nat} {names : List Name} {ev : EvRef} (h : okEv n names ev) : ∀ i ∈ ev.tl, i < n := by
  intro i hi
  obtain ⟨k, idxs, rfl⟩ := eq_real_of_mem_tl hi
  exact h.2 i hi

theorem okEv.mono {n n' : Nat} {names names' : List Name} {ev : EvRef} (h : okEv n names ev)
    (hn : n ≤ n') (hs : ∀ k ∈ names, k ∈ names') : okEv n' names' ev := by
  cases ev with
  | ph v => trivial
  | real k tl => cases tl with
    | none => trivial
    | some idxs => exact ⟨hs k h.1, fun i hi => Nat.lt_of_lt_of_le (h.2 i hi) hn⟩

theorem plainEv.ok {n : Nat} {names : List Name} {ev : EvRef} (h : plainEv ev) : okEv n names ev :=
  h.mono (Nat.zero_le n) (List.forall_mem_nil _)

theorem plainEv.hi {n : Nat} {ev : EvRef} (h : plainEv ev) : hiEv n ev :=
  fun i hi => absurd (h.tl_lt i hi) (Nat.not_lt_zero i)

end SMV.Decl
