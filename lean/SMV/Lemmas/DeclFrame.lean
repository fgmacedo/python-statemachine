import SMV.Lemmas.DeclBody
/-!
`elabClass_frame` (C16, known finding D7): the store after `class Sub(Base): body` is `Frame`d by the base's
store `b`, the new entries having sources in `G`, which excludes `AnyState`. The body only appends, and
modifies positions its own attributes list (`elabBody_spec`); `inherit` registers by id only
(`inherit_trans_attrs`); `elabMeta` defines events whose lists point beyond `b`, where no entry is
`AnyState`-sourced, so nothing is expanded (`kept_frame`); `_update_event_references` rewrites entries
that hold a placeholder, and those of `b` hold none (`updateRefs_frame`).
-/
namespace SMV.Decl

section
variable {b : List TDef} {G : Src → Prop}

theorem kept_trans_attrs (l : List TDef) (a : List (Name × AttrVal)) :
    Kept (fun ev => ev.tl = []) (fun _ => False) (fun c => c.trans = l ∧ c.attrs = a) where
  congr ht _ ha h := ⟨ht ▸ h.1, ha ▸ h.2⟩
  event _ hA hi := nomatch hA ▸ hi  -- `hA ▸ hi : i ∈ []`
  expand _ hA hi _ _ := nomatch hA ▸ hi
  state _ hs := hs.elim
  found _ hs := hs.elim

theorem dropTl_tl (e : EvRef) : (dropTl e).tl = [] := by cases e <;> rfl

theorem inherit_trans_attrs (base c : Cls) :
    (inherit base c).trans = c.trans ∧ (inherit base c).attrs = c.attrs := by
  have K := kept_trans_attrs c.trans c.attrs
  have h1 := base.states.foldlRecOn (motive := fun c' => c'.trans = c.trans ∧ c'.attrs = c.attrs) addStateInh
    ⟨rfl, rfl⟩ fun c' h s _ => by
      rw [addStateInh, ← List.foldl_map]
      exact K.foldl_addEvent _ (c := { c' with states := c'.states ++ [s] }) h
        (List.forall_mem_map.mpr fun e _ => dropTl_tl e)
  rw [inherit, inheritV, ← List.foldl_map]
  exact K.foldl_addEvent _ h1 (List.forall_mem_map.mpr fun _ _ => rfl)

theorem kept_frame (hG : ∀ x, G x → x ≠ .any) :
    Kept (hiEv b.length) (freshFor b)
      (fun c => Frame b (fun t => G t.source ∧ ∀ e ∈ t.events, hiEv b.length e) c.trans) where
  congr ht _ _ h := ht ▸ h
  event {_ ev _} h hA hi := h.modifyAt (fun t => { t with events := addEv t.events ev })
    (fun _ ht => ⟨ht.1, forall_addEv ht.2 hA⟩) (hA _ hi)
  expand h hA hi ht hany := absurd hany (hG _ (h.getElem? (hA _ hi) ht).1)
  state h _ := h
  found h hs _ ht hts := (h.of_source hs ht hts).2

theorem updateRefs_frame {c : Cls} (hb : ∀ t ∈ b, noPh t) (h : Frame b (fun t => G t.source) c.trans) :
    Frame b (fun t => G t.source) (updateRefs c).trans := by
  refine c.pending.foldlRecOn (motive := fun c' : Cls => Frame b (fun t => G t.source) c'.trans) _ h
    fun c' h' pe _ => ?_
  obtain ⟨v, oe⟩ := pe
  cases oe with
  | none => simp only [updateRef]; split <;> exact h'
  | some e =>
    obtain ⟨new, h1, h2⟩ := h'
    refine ⟨new.map (replacePh c' v e), ?_, fun t ht => ?_⟩
    · rw [updateRef_some, h1, List.map_append, map_replacePh _ _ _ b hb]
    · obtain ⟨t0, ht0, rfl⟩ := List.mem_map.mp ht
      unfold replacePh
      split <;> exact h2 t0 ht0

theorem elabClass_frame (base : Cls) (p : List Stmt) (hG : ∀ x, G x → x ≠ .any)
    (hsrc : ∀ st ∈ p, ∀ x ∈ st.srcs, G x) (hph : ∀ t ∈ base.trans, noPh t)
    (hd : ∀ st ∈ p, ∀ s ∈ st.decls, freshFor base.trans s) :
    Frame base.trans (fun t => G t.source) (elabClass base p).trans := by
  have h1 := elabBody_spec p _ (BodyInv.start (G := G) base) hsrc hd
  unfold elabClass elabMeta
  generalize elabBody (startClass base) p = cb at h1 ⊢
  obtain ⟨i1, i2⟩ := inherit_trans_attrs base cb
  generalize inherit base cb = ci at i1 i2 ⊢
  have h2 := (kept_frame hG).foldl_processAttr ci.attrs (c := { ci with attrs := [] })
    (i1 ▸ h1.frame.mono fun t ht => ⟨ht.1, fun e he => (ht.2 e he).hi⟩)
    fun a ha => (h1.attrs a (i2 ▸ ha)).mono (fun _ h => h.2) (fun _ h => h)
  exact updateRefs_frame hph (h2.mono fun t ht => ht.1)

end

end SMV.Decl
