/-! List facts missing from core. -/

theorem List.eq_of_map_nodup {α β} {f : α → β} {l : List α} (hd : (l.map f).Nodup) {a b : α}
    (ha : a ∈ l) (hb : b ∈ l) (h : f a = f b) : a = b :=
  have hp : l.Pairwise fun a b => f a ≠ f b := List.pairwise_map.mp hd
  List.Pairwise.forall_of_forall_of_flip (R := fun a b => f a = f b → a = b) (fun _ _ _ => rfl)
    (hp.imp fun hne h => absurd h hne) (hp.imp fun hne h => absurd h.symm hne) ha hb h

theorem List.pairwise_le_of_const {α} {f : α → Nat} {l : List α} {k : Nat} (h : ∀ a ∈ l, f a = k) :
    (l.map f).Pairwise (· ≤ ·) :=
  List.pairwise_map.2 (List.pairwise_of_forall_mem_list fun a ha b hb => by rw [h a ha, h b hb]; exact Nat.le_refl _)

theorem List.mem_zipIdx_reverse {α} {l : List α} {p : α × Nat} : p ∈ l.zipIdx.reverse ↔ l[p.2]? = some p.1 :=
  List.mem_reverse.trans List.mem_zipIdx_iff_getElem?

theorem List.modify_append_left {α} (f : α → α) (l r : List α) (i : Nat) (h : i < l.length) :
    (l ++ r).modify i f = l.modify i f ++ r := by
  induction l generalizing i with
  | nil => nomatch h
  | cons a l ih =>
    cases i with
    | zero => rfl
    | succ i => rw [List.cons_append, List.modify_succ_cons, ih i (Nat.lt_of_succ_lt_succ h)]; rfl

theorem List.modify_append_right {α} (f : α → α) (l r : List α) (i : Nat) (h : l.length ≤ i) :
    (l ++ r).modify i f = l ++ r.modify (i - l.length) f := by
  induction l generalizing i with
  | nil => rfl
  | cons a l ih =>
    cases i with
    | zero => nomatch h
    | succ i =>
      rw [List.cons_append, List.modify_succ_cons, ih i (Nat.le_of_succ_le_succ h), List.length_cons, Nat.succ_sub_succ]
      rfl

theorem List.foldl_commute {α β} (φ : β → β) (op : β → α → β) (J : β → Prop) (l : List α)
    (hJ : ∀ b, J b → ∀ a ∈ l, J (op b a)) (hc : ∀ b, J b → ∀ a ∈ l, op (φ b) a = φ (op b a)) {b : β} (h : J b) :
    l.foldl op (φ b) = φ (l.foldl op b) :=
  (List.foldl_rel (r := fun b₁ b₂ => J b₂ ∧ b₁ = φ b₂) ⟨h, rfl⟩
    fun a ha _ b₂ hb => ⟨hJ b₂ hb.1 a ha, hb.2 ▸ hc b₂ hb.1 a ha⟩).2
