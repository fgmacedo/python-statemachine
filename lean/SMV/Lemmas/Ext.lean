import SMV.Lemmas.Resp
/-!
# `Ext t`: what processing trigger `t` in run-to-completion mode does to the configuration (for `inv_of_ext`, C03)
-/
namespace SMV

structure Ext (t : Nat) (c c' : Cfg) : Prop where
  log : ∃ es, c'.log = c.log ++ es ∧ ∀ e ∈ es, e.tid = t
  queue : ∃ qs, c'.queue = c.queue ++ qs ∧
            qs.map (·.tid) = List.range' c.nextTid (c'.nextTid - c.nextTid)
  mono : c.nextTid ≤ c'.nextTid
  locked : c'.locked = c.locked

theorem Ext.refl (t : Nat) (c : Cfg) : Ext t c c :=
  ⟨⟨[], by simp⟩, ⟨[], by simp⟩, Nat.le_refl _, rfl⟩

theorem Ext.trans {t : Nat} {a b c : Cfg} (h1 : Ext t a b) (h2 : Ext t b c) : Ext t a c := by
  obtain ⟨⟨es1, hl1, ht1⟩, ⟨qs1, hq1, hr1⟩, m1, k1⟩ := h1
  obtain ⟨⟨es2, hl2, ht2⟩, ⟨qs2, hq2, hr2⟩, m2, k2⟩ := h2
  refine ⟨⟨es1 ++ es2, by rw [hl2, hl1, List.append_assoc], List.forall_mem_append.2 ⟨ht1, ht2⟩⟩,
    ⟨qs1 ++ qs2, by rw [hq2, hq1, List.append_assoc], ?_⟩, Nat.le_trans m1 m2, k2.trans k1⟩
  -- two adjacent runs of fresh ids make one
  rw [List.map_append, hr1, hr2, ← Nat.sub_add_sub_cancel m2 m1, Nat.add_comm (c.nextTid - _),
    ← List.range'_append_1, Nat.add_sub_cancel' m1]

theorem enqueue_ext (t : Nat) (e : EventId) : Resp (Ext t) (enqueue e) := fun c =>
  ⟨(Ext.refl t c).log, ⟨[{ tid := c.nextTid, event := e }], rfl, by simp [enqueue, EM.modify]⟩,
    Nat.le_succ _, rfl⟩

theorem Ext.lift (t : Nat) : Lift (Ext t) (fun _ e => e.tid = t) (fun r => r = .none) nestedRtc :=
  .rtc (Ext.refl t) (fun _ _ _ => Ext.trans)
    (fun c es _ h => ⟨⟨es, rfl, h⟩, (Ext.refl t c).queue, Nat.le_refl _, rfl⟩) (enqueue_ext t)

theorem setState_ext (t : Trigger) (v : Val) : Resp (Ext t.tid) (setState t v) := fun c =>
  ⟨⟨[.setState t.tid v], rfl, List.forall_mem_singleton.2 rfl⟩, (Ext.refl t.tid c).queue, Nat.le_refl _, rfl⟩

theorem trigger_ext (m : Machine) (t : Trigger) : Resp (Ext t.tid) (trigger nestedRtc m t) :=
  trigger_lift (Ext.lift t.tid) m t (fun _ _ _ _ _ => ⟨rfl, fun _ _ => rfl, fun _ => rfl⟩) (setState_ext t)

end SMV
