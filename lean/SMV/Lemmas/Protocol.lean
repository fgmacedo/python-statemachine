import SMV.Model.Protocol
/-!
# Invariants of the drain-election protocol (`SMV.Model.Protocol`)

Who is where (`Mutex`, `CurInv`): one lemma per *kind* of move, and the case analysis over `Step` only says which
kind a step is. The queue and the ghost fields: given the first layer every step is a step of a sequential server
(`DStep`), which does not mention senders. `Live` needs only `Mutex` and the fact that nobody is at a `pc` its
variant of the protocol does not have (`pc_reach`).
-/
namespace SMV.Protocol

theorem step?_sound {fixed atomic : Bool} {s s' : S} {l : Label}
    (h : step? fixed atomic s l = some s') : Step fixed atomic s s' := by
  revert h
  -- two goals per label, in the order of `Label`'s constructors, each with what the `match` in `step?` found:
  -- where it returned a state, the `Step` constructor of the same name gives that state
  fun_cases step? fixed atomic s l <;> intro h <;> cases h
  · exact .put _ _ _ ‹_›
  · exact .acqOk _ _ ‹_› ‹_›
  · exact .acqFail _ _ ‹_› ‹_›
  · exact .pop _ _ _ _ ‹_› ‹_›
  · exact .nested _ _ _ _ ‹_›
  · exact .done _ _ _ ‹_›
  · exact .empty _ _ ‹_› ‹_› rfl
  · exact .emptyRelease _ _ ‹_› ‹_› rfl
  · exact .release _ _ ‹_›
  · exact .recheckEmpty _ _ ‹_› ‹_›
  · exact .recheckMore _ _ ‹_› (‹s.queue = _› ▸ List.cons_ne_nil _ _)

theorem step?_complete {fixed atomic : Bool} {s s' : S} (h : Step fixed atomic s s') :
    ∃ l, step? fixed atomic s l = some s' := by
  cases h with
  | put i id h => exact ⟨.put i id, by simp [step?, h]⟩
  | acqOk i h hl => exact ⟨.acqOk i, by simp [step?, h, hl]⟩
  | acqFail i h hl => exact ⟨.acqFail i, by simp [step?, h, hl]⟩
  | pop i e q h hq => exact ⟨.pop i, by simp [step?, h, hq]⟩
  | nested i e id h => exact ⟨.nested i id, by simp [step?, h]⟩
  | done i e h => exact ⟨.done i, by simp [step?, h]⟩
  | empty i h hq ha => exact ⟨.empty i, by simp [step?, h, hq, ha]⟩
  | emptyRelease i h hq ha => exact ⟨.emptyRelease i, by simp [step?, h, hq, ha]⟩
  | release i h => exact ⟨.release i, by simp [step?, h]⟩
  | recheckEmpty i h hq => exact ⟨.recheckEmpty i, by simp [step?, h, hq]⟩
  | recheckMore i h hq =>
    obtain ⟨a, q, hq⟩ := List.exists_cons_of_ne_nil hq
    exact ⟨.recheckMore i, by simp [step?, h, hq]⟩

theorem reach_run {fixed atomic : Bool} {ls : List Label} {s s' : S} (hs : Reach fixed atomic s)
    (h : run? fixed atomic s ls = some s') : Reach fixed atomic s' := by
  induction ls generalizing s with
  | nil => cases h; exact hs
  | cons l ls ih =>
    simp only [run?] at h
    split at h
    · exact ih (hs.step (step?_sound ‹_›)) h
    · cases h

/-- at most one sender is in the critical section, and the lock is held iff somebody is -/
def Mutex (s : S) : Prop :=
  (∀ i j, inCS (s.pc i) → inCS (s.pc j) → i = j) ∧ (s.lock = true ↔ ∃ i, inCS (s.pc i))

theorem Mutex.stay {s s' : S} {i : Nat} {p : Pc} (hm : Mutex s) (hpc : s'.pc = set s.pc i p)
    (hl : s'.lock = s.lock) (hp : inCS p ↔ inCS (s.pc i)) : Mutex s' := by
  have h : ∀ j, inCS (s'.pc j) ↔ inCS (s.pc j) := fun j => by
    rw [hpc, set]; split <;> simp [*]
  simpa only [Mutex, h, hl] using hm

theorem Mutex.enter {s s' : S} {i : Nat} {p : Pc} (hm : Mutex s) (hpc : s'.pc = set s.pc i p)
    (hfree : s.lock = false) (hl : s'.lock = true) (hp : inCS p) : Mutex s' := by
  have hnone : ∀ j, ¬ inCS (s.pc j) := fun j hj => by simpa [hfree] using hm.2.mpr ⟨j, hj⟩
  have h : ∀ j, inCS (s'.pc j) ↔ j = i := fun j => by
    rw [hpc, set]; split <;> simp [*]
  exact ⟨fun a b ha hb => by rw [(h a).1 ha, (h b).1 hb], by simp [hl, h]⟩

theorem Mutex.leave {s s' : S} {i : Nat} {p : Pc} (hm : Mutex s) (hpc : s'.pc = set s.pc i p)
    (hin : inCS (s.pc i)) (hl : s'.lock = false) (hp : ¬ inCS p) : Mutex s' := by
  have h : ∀ j, ¬ inCS (s'.pc j) := fun j => by
    rw [hpc, set]; split
    · exact hp
    · exact fun hj => ‹j ≠ i› (hm.1 j i hj hin)
  exact ⟨fun a _ ha => absurd ha (h a), by simp [hl, h]⟩

theorem mutex_step {fixed atomic} {s s' : S} (hm : Mutex s) (hs : Step fixed atomic s s') : Mutex s' := by
  cases hs with
  | acqOk i h hl => exact hm.enter rfl hl rfl trivial
  | nested i e id h => exact hm
  | emptyRelease i h hq ha => exact hm.leave rfl (by simp [h, inCS]) rfl (by simp [inCS])
  | release i h => exact hm.leave rfl (by simp [h, inCS]) rfl (by cases fixed <;> simp [inCS])
  | _ => exact hm.stay rfl rfl (by simp [*, inCS])

/-- An `Option`, so that "nobody is processing" is the equation `∀ i, isProcessing (s.pc i) = none` and not a
statement about all events. -/
def isProcessing : Pc → Option Ev
  | .processing e => some e
  | _ => none

theorem proc_inCS (p : Pc) : isProcessing p ≠ none → inCS p := by
  cases p <;> simp [inCS, isProcessing]

theorem isProcessing_eq_some {p : Pc} {e : Ev} : isProcessing p = some e ↔ p = .processing e := by
  cases p <;> simp [isProcessing]

theorem proc_eq (p : Pc) (e : Ev) : p = .processing e → isProcessing p = some e :=
  isProcessing_eq_some.2

/-- `cur` is the event of the (unique) sender that is `processing`, and nothing else -/
def CurInv (s : S) : Prop :=
  (∀ i e, s.pc i = .processing e → s.cur = some e) ∧ ((∀ i, isProcessing (s.pc i) = none) → s.cur = none)

theorem CurInv.cur_eq {s : S} {i : Nat} (hc : CurInv s) (hm : Mutex s) (hin : inCS (s.pc i)) :
    s.cur = isProcessing (s.pc i) := by
  cases hp : isProcessing (s.pc i) with
  | some e => exact hc.1 i e (isProcessing_eq_some.1 hp)
  | none =>
    refine hc.2 fun j => Decidable.byContradiction fun hj => ?_
    rw [hm.1 j i (proc_inCS _ hj) hin] at hj
    exact hj hp

theorem CurInv.keep {s s' : S} {i : Nat} {p : Pc} (hc : CurInv s) (hpc : s'.pc = set s.pc i p)
    (hcur : s'.cur = s.cur) (hp : isProcessing p = isProcessing (s.pc i)) : CurInv s' := by
  have h : ∀ j, isProcessing (s'.pc j) = isProcessing (s.pc j) := fun j => by
    rw [hpc, set]; split <;> simp [*]
  simpa only [CurInv, ← isProcessing_eq_some, h, hcur] using hc

theorem CurInv.holder {s s' : S} {i : Nat} {p : Pc} (hm : Mutex s) (hpc : s'.pc = set s.pc i p)
    (hin : inCS (s.pc i)) (hcur : s'.cur = isProcessing p) : CurInv s' := by
  have h : ∀ j, isProcessing (s'.pc j) ≠ none → j = i := fun j hj => by
    rw [hpc, set] at hj; split at hj
    · assumption
    · exact hm.1 j i (proc_inCS _ hj) hin
  have hi : s'.pc i = p := by rw [hpc]; exact if_pos rfl
  rw [CurInv, hcur, ← hi]
  refine ⟨fun j e hj => ?_, fun hall => hall i⟩
  obtain rfl := h j (by rw [hj]; nofun)
  exact isProcessing_eq_some.2 hj

theorem cur_step {fixed atomic} {s s' : S} (hm : Mutex s) (hc : CurInv s) (hs : Step fixed atomic s s') :
    CurInv s' := by
  cases hs with
  | pop i e q h hq => exact .holder hm rfl (by simp [h, inCS]) rfl
  | done i e h => exact .holder hm rfl (by simp [h, inCS]) rfl
  | nested i e id h => exact hc
  | release i h => exact hc.keep rfl rfl (by cases fixed <;> simp [h, isProcessing])
  | _ => exact hc.keep rfl rfl (by simp [*, isProcessing])

/-- What a step does to the queue and the ghost fields, whoever takes it: enqueue, begin the head of the queue
when nothing is in flight, end the event in flight, or nothing. `pc` and `lock` are left free. -/
inductive DStep : S → S → Prop
  | enq (s pc e) : DStep s { s with pc := pc, queue := s.queue ++ [e], history := s.history ++ [e] }
  | beg (s pc e q) (hc : s.cur = none) (hq : s.queue = e :: q) :
      DStep s { s with pc := pc, queue := q, cur := some e, log := s.log ++ [.beg e] }
  | fin (s pc e) (hc : s.cur = some e) :
      DStep s { s with pc := pc, processed := s.processed ++ [e], cur := none, log := s.log ++ [.fin e] }
  | skip (s pc lock) : DStep s { s with pc := pc, lock := lock }

/-- the only place where the interleaving matters for the ghost fields: whoever pops holds the lock, so
nothing is in flight; whoever finishes `e` is the one `cur` speaks of -/
theorem Step.dstep {fixed atomic} {s s' : S} (hm : Mutex s) (hc : CurInv s) (hs : Step fixed atomic s s') :
    DStep s s' := by
  cases hs with
  | put i id h => exact .enq ..
  | nested i e id h => exact .enq ..
  | pop i e q h hq =>
    exact .beg _ _ e q (by simpa [h, isProcessing] using hc.cur_eq hm (i := i) (by simp [h, inCS])) hq
  | done i e h => exact .fin _ _ e (hc.1 i e h)
  | _ => exact .skip ..

/-- the two clauses of `CurInv` and the FIFO equation as one flat conjunction: the form in which `fifo_inv` hands
them to C06 -/
def Fifo (s : S) : Prop :=
  (∀ i e, s.pc i = .processing e → s.cur = some e) ∧
  ((∀ i, isProcessing (s.pc i) = none) → s.cur = none) ∧
  s.processed ++ s.cur.toList ++ s.queue = s.history

/-- A step appends the same event to `processed ++ in-flight ++ queue` and to the history, or leaves both alone.
`R := Eq`: exactly once, in order; `R := List.Sublist` (`ProtocolFail`): at most once, in order. -/
theorem DStep.grow {R : List Ev → List Ev → Prop} (snoc : ∀ {a b} e, R a b → R (a ++ [e]) (b ++ [e]))
    {s s' : S} (h : R (s.processed ++ s.cur.toList ++ s.queue) s.history) (d : DStep s s') :
    R (s'.processed ++ s'.cur.toList ++ s'.queue) s'.history := by
  cases d with
  | enq pc e => simpa using snoc e h
  | beg pc e q hc hq => simpa [hc, hq] using h
  | fin pc e hc => simpa [hc] using h
  | skip pc lock => exact h

/-- the marks one processed event leaves in the log -/
def block (e : Ev) : List Mark := [.beg e, .fin e]

def openBlock : Option Ev → List Mark
  | some e => [.beg e]
  | none => []

/-- the log of begin/end marks is the concatenation of the complete blocks of the processed events,
in processing order, followed by the begin mark of the event in flight (if any) -/
def Serial (s : S) : Prop := s.log = s.processed.flatMap block ++ openBlock s.cur

/-- The events whose blocks make up the log and the processed events grow together. `R := Eq` gives `Serial`,
`R := List.Sublist` gives `SerialF` (`ProtocolFail`), where a failed event has a block and is not processed. -/
theorem DStep.blocks {R : List Ev → List Ev → Prop} (snoc : ∀ {a b} e, R a b → R (a ++ [e]) (b ++ [e]))
    {s s' : S} {ended : List Ev} (hR : R s.processed ended)
    (h : s.log = ended.flatMap block ++ openBlock s.cur) (d : DStep s s') :
    ∃ ended', R s'.processed ended' ∧ s'.log = ended'.flatMap block ++ openBlock s'.cur := by
  cases d with
  | enq pc e => exact ⟨ended, hR, h⟩
  | beg pc e q hc hq => exact ⟨ended, hR, by simp [h, hc, openBlock]⟩
  | fin pc e hc => exact ⟨ended ++ [e], snoc e hR, by simp [h, hc, openBlock, block]⟩
  | skip pc lock => exact ⟨ended, hR, h⟩

theorem reach_inv {fixed atomic} {s : S} (h : Reach fixed atomic s) :
    Mutex s ∧ CurInv s ∧ s.processed ++ s.cur.toList ++ s.queue = s.history ∧ Serial s := by
  induction h with
  | init => simp [Mutex, CurInv, Serial, init, inCS, isProcessing, openBlock]
  | step _ hs ih =>
    obtain ⟨hm, hc, hf, hl⟩ := ih
    have d := hs.dstep hm hc
    obtain ⟨_, rfl, hl'⟩ := d.blocks (fun _ h => h ▸ rfl) rfl hl
    exact ⟨mutex_step hm hs, cur_step hm hc hs, d.grow (fun _ h => h ▸ rfl) hf, hl'⟩

theorem mutex_inv {fixed atomic} {s : S} (h : Reach fixed atomic s) : Mutex s := (reach_inv h).1

theorem fifo_inv {fixed atomic} {s : S} (h : Reach fixed atomic s) : Fifo s := by
  obtain ⟨_, hc, hf, _⟩ := reach_inv h
  exact ⟨hc.1, hc.2, hf⟩

theorem serial_inv {fixed atomic} {s : S} (h : Reach fixed atomic s) : Serial s := (reach_inv h).2.2.2

/-- the sender will look at the queue again before it returns -/
def willLook : Pc → Prop
  | .putDone | .check | .processing _ | .exiting | .recheck => True
  | .idle => False

/-- a non-empty queue always has somebody who will look at it again -/
def Live (s : S) : Prop := s.queue ≠ [] → ∃ i, willLook (s.pc i)

theorem inCS_willLook (p : Pc) : inCS p → willLook p := by cases p <;> simp [inCS, willLook]

theorem set_same (f : Nat → Pc) (i : Nat) : set f i (f i) = f := by
  funext j; simp only [set]; split <;> simp [*]

/-- a `pc` that this variant of the protocol has: `exiting` only without the atomic test-and-release, `recheck` only
with the re-check -/
def PcOk (fixed atomic : Bool) (p : Pc) : Prop := (p = .exiting → atomic = false) ∧ (p = .recheck → fixed = true)

theorem forall_set {Q : Pc → Prop} {f : Nat → Pc} {i : Nat} {p : Pc} (h : ∀ j, Q (f j)) (hp : Q p) (j : Nat) :
    Q (set f i p j) := by
  rw [set]; split
  · exact hp
  · exact h j

theorem pc_step {fixed atomic} {s s' : S} (h : ∀ j, PcOk fixed atomic (s.pc j)) (hs : Step fixed atomic s s') :
    ∀ j, PcOk fixed atomic (s'.pc j) := by
  cases hs with
  | nested i e id _ => exact h
  -- `Pc.noConfusion` where `nofun` would compile a `match` each time
  | empty i _ hq ha => exact forall_set h ⟨fun _ => ha, Pc.noConfusion⟩
  | release i _ => exact forall_set h (by cases fixed <;> simp [PcOk])
  | _ => exact forall_set h ⟨Pc.noConfusion, Pc.noConfusion⟩

theorem pc_reach {fixed atomic} {s : S} (h : Reach fixed atomic s) : ∀ j, PcOk fixed atomic (s.pc j) := by
  induction h with
  | init => exact fun _ => ⟨Pc.noConfusion, Pc.noConfusion⟩
  | step _ hs ih => exact pc_step ih hs

/-- with an atomic test-and-release nobody is ever observed between the test and the release -/
theorem noexit_inv {fixed} {s : S} (h : Reach fixed true s) : ∀ i, s.pc i ≠ .exiting :=
  fun i he => by simpa using (pc_reach h i).1 he

/-- without the re-check nobody is ever at `recheck` -/
theorem norecheck_inv {atomic} {s : S} (h : Reach false atomic s) : ∀ i, s.pc i ≠ .recheck :=
  fun i he => by simpa using (pc_reach h i).2 he

theorem willLook_set {f : Nat → Pc} {i : Nat} {p : Pc} (h : willLook p) : ∃ j, willLook (set f i p j) :=
  ⟨i, by simpa [set] using h⟩

/-- After any step the queue is empty, or the sender that moved will look at it again, or (`acqFail`) the lock
is held by somebody who will. Only `release` could break this: with the re-check the releasing sender looks
again, and with the atomic test-and-release there is no separate `release`. -/
theorem live_step {fixed atomic} {s s' : S} (hfa : fixed = true ∨ atomic = true) (hm : Mutex s)
    (hne : ∀ i, s.pc i = .exiting → atomic = false) (hs : Step fixed atomic s s') : Live s' := by
  intro hq
  cases hs with
  | emptyRelease i h hq' ha => exact absurd hq' hq
  | recheckEmpty i h hq' => exact absurd hq' hq
  | acqFail i h hl =>
    obtain ⟨j, hj⟩ := hm.2.mp hl
    have hji : j ≠ i := by rintro rfl; simp [h, inCS] at hj
    exact ⟨j, by simpa [set, hji] using inCS_willLook _ hj⟩
  | nested i e id h => exact ⟨i, by simp [h, willLook]⟩
  | release i h =>
    rcases hfa with rfl | rfl
    · exact willLook_set trivial
    · nomatch hne i h
  | _ => exact willLook_set trivial

/-- With the re-check (`fixed`) or the atomic test-and-release (`atomic`), a non-empty queue always has a sender that
will look at it again: the invariant behind `C06_nothing_stranded`. -/
theorem live_inv {fixed atomic} {s : S} (hfa : fixed = true ∨ atomic = true)
    (h : Reach fixed atomic s) : Live s := by
  cases h with
  | init => simp [Live, init]
  | step hr hs => exact live_step hfa (mutex_inv hr) (fun i => (pc_reach hr i).1) hs

end SMV.Protocol
