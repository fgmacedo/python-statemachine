import SMV.Model.Expr
/-!
# Lemmas for C08: library evaluation = Python evaluation

One mutual induction (`evalLib_flag_py`) relates the library's closure tree, evaluated with either value of the
re-evaluation flag, to Python's evaluation; first evaluations (`eval_lib_py`, flag `false`) are what the property files
use, re-evaluations (`lib_re_val`, flag `true`) the other instance.
-/
namespace SMV.GExpr

theorem firstReads_append (a b : List (Nat × Bool)) :
    firstReads (a ++ b) = firstReads a ++ firstReads b := by
  simp [firstReads]

@[simp] theorem firstReads_nil : firstReads [] = [] := rfl

theorem firstReads_map_true (l : List Nat) : firstReads (l.map (·, true)) = [] := by
  induction l with
  | nil => rfl
  | cons _ _ ih => exact ih

theorem firstReads_map_false (l : List Nat) : firstReads (l.map (·, false)) = l := by
  induction l with
  | nil => rfl
  | cons x _ ih => exact congrArg (x :: ·) ih

theorem firstReads_seq {re : Bool} {a b : List (Nat × Bool)} {a' b' : List Nat}
    (ha : firstReads a = firstReads (a'.map (·, re))) (hb : firstReads b = firstReads (b'.map (·, re))) :
    firstReads (a ++ b) = firstReads ((a' ++ b').map (·, re)) := by
  rw [firstReads_append, List.map_append, firstReads_append, ha, hb]

mutual
/-- `firstReads` keeps the reads flagged `false`. What makes this go through: the only reads Python does not make are the
re-evaluations of the middle operands of a chain (the `more` case of `chainLib_flag_py`), and those carry `true`. -/
theorem evalLib_flag_py (S : Sem) (ρ : Env) (re : Bool) (e : E) :
    (evalLib S ρ re e).val = (evalPy S ρ e).val ∧
    firstReads (evalLib S ρ re e).reads = firstReads ((evalPy S ρ e).reads.map (·, re)) := by
  cases e with
  | name n => exact ⟨rfl, rfl⟩
  | const v => exact ⟨rfl, rfl⟩
  | not a =>
    have := evalLib_flag_py S ρ re a
    simp only [evalLib, evalPy, this]
    trivial
  | and a b =>
    have ha := evalLib_flag_py S ρ re a
    have hb := evalLib_flag_py S ρ re b
    rw [evalLib, evalPy, ha.1]
    split
    · exact ha
    · split
      · exact ⟨hb.1, firstReads_seq ha.2 hb.2⟩
      · exact ha
  | or a b =>
    have ha := evalLib_flag_py S ρ re a
    have hb := evalLib_flag_py S ρ re b
    rw [evalLib, evalPy, ha.1]
    split
    · exact ha
    · split
      · exact ha
      · exact ⟨hb.1, firstReads_seq ha.2 hb.2⟩
  | cmp first c =>
    have hf := evalLib_flag_py S ρ re first
    rw [evalLib, evalPy, hf.1]
    split
    · exact hf
    next lv _ =>
      have hc := chainLib_flag_py S ρ re c lv
      exact ⟨hc.1, firstReads_seq hf.2 hc.2⟩
theorem chainLib_flag_py (S : Sem) (ρ : Env) (re : Bool) (c : Chain) (lv : V) :
    (chainLib S ρ re lv c).val = (chainPy S ρ lv c).val ∧
    firstReads (chainLib S ρ re lv c).reads = firstReads ((chainPy S ρ lv c).reads.map (·, re)) := by
  cases c with
  | last op r =>
    have h := evalLib_flag_py S ρ re r
    rw [chainLib, chainPy, h.1]
    split
    · exact h
    · exact ⟨rfl, h.2⟩
  | more op r c =>
    have h := evalLib_flag_py S ρ re r
    have h2 := evalLib_flag_py S ρ true r
    simp only [chainLib, chainPy, h.1]
    split
    · exact h
    next rv hv =>
      split
      · exact ⟨rfl, h.2⟩
      · exact ⟨rfl, h.2⟩
      · have ih := chainLib_flag_py S ρ re c rv
        rw [h2.1, hv]
        refine ⟨ih.1, ?_⟩
        rw [firstReads_append, firstReads_append, h2.2, firstReads_map_true, List.append_nil,
          ← firstReads_append]
        exact firstReads_seq h.2 ih.2
end

/-- a re-evaluation yields the same value: names are read, not mutated, during one evaluation -/
theorem lib_re_val (S : Sem) (ρ : Env) (e : E) :
    (evalLib S ρ true e).val = (evalLib S ρ false e).val ∧
    firstReads (evalLib S ρ true e).reads = [] :=
  ⟨(evalLib_flag_py S ρ true e).1.trans (evalLib_flag_py S ρ false e).1.symm,
   (evalLib_flag_py S ρ true e).2.trans (firstReads_map_true _)⟩

theorem chain_re_val (S : Sem) (ρ : Env) (c : Chain) (lv : V) :
    (chainLib S ρ true lv c).val = (chainLib S ρ false lv c).val ∧
    firstReads (chainLib S ρ true lv c).reads = [] :=
  ⟨(chainLib_flag_py S ρ true c lv).1.trans (chainLib_flag_py S ρ false c lv).1.symm,
   (chainLib_flag_py S ρ true c lv).2.trans (firstReads_map_true _)⟩

theorem eval_lib_py (S : Sem) (ρ : Env) (e : E) :
    (evalLib S ρ false e).val = (evalPy S ρ e).val ∧
    firstReads (evalLib S ρ false e).reads = (evalPy S ρ e).reads :=
  ⟨(evalLib_flag_py S ρ false e).1, (evalLib_flag_py S ρ false e).2.trans (firstReads_map_false _)⟩

theorem chain_lib_py (S : Sem) (ρ : Env) (c : Chain) (lv : V) :
    (chainLib S ρ false lv c).val = (chainPy S ρ lv c).val ∧
    firstReads (chainLib S ρ false lv c).reads = (chainPy S ρ lv c).reads :=
  ⟨(chainLib_flag_py S ρ false c lv).1, (chainLib_flag_py S ρ false c lv).2.trans (firstReads_map_false _)⟩

end SMV.GExpr
