import SMV.Model.Decl
import SMV.Lemmas.ListAux
/-!
Two normal forms carry most of what follows. Registering an event is `_on_event_defined` for the list it
carries (none: the empty list) followed by `regEv`, which changes `cls._events` only (`addEvent_real`).
A transition expression appends `e.flat`, a list that does not depend on the class, to the store
(`evalT_fst`); without a `ref` it is one `push` (`evalT_flat`).
-/
namespace SMV.Decl

theorem EvRef.same_refl : ∀ x : EvRef, x.same x = true
  | .real a _ => beq_self_eq_true a
  | .ph a => beq_self_eq_true a

theorem mem_addEv {l : List EvRef} {e x : EvRef} (h : x ∈ addEv l e) : x ∈ l ∨ x = e := by
  unfold addEv at h
  split at h
  · exact Or.inl h
  · simpa using h

theorem mem_foldl_addEv (L : List EvRef) (acc : List EvRef) {x : EvRef}
    (h : x ∈ L.foldl addEv acc) : x ∈ acc ∨ x ∈ L :=
  L.foldlRecOn (motive := fun r => x ∈ r → x ∈ acc ∨ x ∈ L) addEv .inl
    (fun _ ih _ ha hx => (mem_addEv hx).elim ih fun e => .inr (e ▸ ha)) h

theorem mem_uniqueEvents {ts : List TDef} {x : EvRef} (h : x ∈ uniqueEvents ts) :
    ∃ t ∈ ts, x ∈ t.events := by
  rcases mem_foldl_addEv _ _ h with h1 | h1
  · simp at h1
  · simpa [List.mem_flatMap] using h1

theorem forall_addEv {P : EvRef → Prop} {l : List EvRef} {e : EvRef} (hl : ∀ x ∈ l, P x) (he : P e) :
    ∀ x ∈ addEv l e, P x := fun x hx => by
  rcases mem_addEv hx with h | h
  · exact hl x h
  · exact h ▸ he

theorem same_real {y : EvRef} {k : Name} {tl : Option (List Nat)} (h : y.same (.real k tl) = true) :
    ∃ tl', y = .real k tl' := by
  cases y with
  | ph v => exact nomatch h
  | real a tl' => exact ⟨tl', by rw [beq_iff_eq.mp h]⟩

theorem addEv_mono {l : List EvRef} {e y : EvRef} (h : y ∈ l) : y ∈ addEv l e := by
  unfold addEv; split
  · exact h
  · exact List.mem_append_left _ h

theorem addEv_has (l : List EvRef) (e : EvRef) : ∃ y ∈ addEv l e, y.same e = true := by
  unfold addEv
  split
  · next h => exact List.any_eq_true.mp h
  · exact ⟨e, List.mem_append_right _ (.head _), EvRef.same_refl e⟩

theorem addEv_addEv (l : List EvRef) (e : EvRef) : addEv (addEv l e) e = addEv l e :=
  if_pos (List.any_eq_true.mpr (addEv_has l e))

theorem foldl_addEv_has (L : List EvRef) (acc : List EvRef) {x : EvRef} (h : x ∈ L) :
    ∃ y ∈ L.foldl addEv acc, y.same x = true := by
  induction L generalizing acc with
  | nil => simp at h
  | cons a L ih =>
    simp only [List.mem_cons] at h
    rcases h with h | h
    · subst h
      obtain ⟨y, hy, hs⟩ := addEv_has acc x
      exact ⟨y, L.foldlRecOn _ hy fun _ hb _ _ => addEv_mono hb, hs⟩
    · exact ih _ h

theorem push_length (c : Cls) (ts : List TDef) : (push c ts).1.trans.length = c.trans.length + ts.length := by
  simp [push]

theorem push_append (c : Cls) (l₁ l₂ : List TDef) :
    push c (l₁ ++ l₂) = ((push (push c l₁).1 l₂).1, (push c l₁).2 ++ (push (push c l₁).1 l₂).2) := by
  simp only [push, List.append_assoc, List.any_append, Bool.or_assoc, List.length_append,
    List.range'_append_1]

theorem badInternal_mkT (src : Src) (t : Name) (kw : Kw) (h : kw.internal = false) :
    badInternal (mkT src t kw) = false := by
  simp [badInternal, mkT, h]

theorem mem_push_snd {c : Cls} {ts : List TDef} {i : Nat} (h : i ∈ (push c ts).2) :
    c.trans.length ≤ i ∧ i < c.trans.length + ts.length := by
  simpa [push, List.mem_range'_1] using h

theorem modify_at_length (S B : List TDef) (a : TDef) (f : TDef → TDef) :
    (S ++ a :: B).modify S.length f = S ++ f a :: B := by
  rw [List.modify_append_right _ _ _ _ (Nat.le_refl _), Nat.sub_self, List.modify_zero_cons]

theorem foldl_modify_length (f : TDef → TDef) (idxs : List Nat) (l : List TDef) :
    (idxs.foldl (modifyAt f) l).length = l.length :=
  idxs.foldlRecOn (motive := fun r : List TDef => r.length = l.length) _ rfl
    fun _ ih _ _ => (List.length_modify ..).trans ih

theorem addOn_comm_length (c : Cls) (idxs : List Nat) (cb : CbId) :
    (addOn c idxs cb).trans.length = c.trans.length :=
  foldl_modify_length _ idxs c.trans

theorem forall_modify {P : TDef → Prop} {f : TDef → TDef} (hf : ∀ t, P t → P (f t)) {l : List TDef}
    (hl : ∀ t ∈ l, P t) (i : Nat) : ∀ t ∈ modifyAt f l i, P t := by
  intro t ht
  obtain ⟨j, hj⟩ := List.mem_iff_getElem?.mp ht
  rw [modifyAt, List.getElem?_modify] at hj
  cases h : l[j]? with
  | none => simp [h] at hj
  | some t0 =>
    have h0 : P t0 := hl t0 (List.mem_of_getElem? h)
    simp only [h, Option.map_eq_map, Option.map_some, Option.some.injEq] at hj
    split at hj
    · exact hj ▸ hf t0 h0
    · exact hj ▸ h0

theorem foldl_modify_block (f : TDef → TDef) (X : List TDef) : ∀ (S B : List TDef),
    (List.range' S.length X.length).foldl (modifyAt f) (S ++ X ++ B) = S ++ X.map f ++ B := by
  induction X with
  | nil => intro S B; rfl
  | cons x X ih =>
    intro S B
    have := ih (S ++ [f x]) B
    simp only [List.length_append, List.length_singleton, List.append_assoc, List.singleton_append] at this
    simp only [List.length_cons, List.range'_succ, List.foldl_cons, modifyAt, List.map_cons, List.append_assoc,
      List.cons_append, modify_at_length]
    exact this

/-- `Event._transitions` as store positions; to the metaclass steps no list is the empty list (`addEvent_real`) -/
def EvRef.tl : EvRef → List Nat
  | .real _ (some idxs) => idxs
  | _ => []

def regEv (c : Cls) (id : Name) : Cls :=
  if c.events.contains id then c else { c with events := c.events ++ [id] }

theorem regEv_frame (c : Cls) (id : Name) : (regEv c id).trans = c.trans ∧
    (regEv c id).states = c.states ∧ (regEv c id).attrs = c.attrs := by
  unfold regEv; split <;> exact ⟨rfl, rfl, rfl⟩

theorem addEvent_real (c : Cls) (id : Name) (tl : Option (List Nat)) :
    addEvent c (.real id tl) = regEv (onEventDefined c id (EvRef.real id tl).tl) id := by
  cases tl with
  | none => rfl
  | some idxs =>
    cases idxs with
    | nil => rfl
    | cons i is => rfl

theorem addEvent_ph_frame (c : Cls) (v : Name) : (addEvent c (.ph v)).trans = c.trans ∧
    (addEvent c (.ph v)).states = c.states ∧ (addEvent c (.ph v)).attrs = c.attrs := by
  simp only [addEvent]; split <;> exact ⟨rfl, rfl, rfl⟩

theorem outOf_eq_nil {c : Cls} {s : Name} : outOf c s = [] ↔ ∀ t ∈ c.trans, t.source ≠ .st s :=
  List.filter_eq_nil_iff.trans (forall₂_congr fun _ _ => not_congr beq_iff_eq)

theorem addState_eq (c : Cls) (s : SDecl) :
    addState c s = (uniqueEvents (outOf c s.name)).foldl addEvent { c with states := c.states ++ [s] } := rfl

theorem addState_of_source_ne (c : Cls) (s : SDecl) (h : ∀ t ∈ c.trans, t.source ≠ .st s.name) :
    addState c s = { c with states := c.states ++ [s] } := by
  unfold addState
  have : outOf { c with states := c.states ++ [s] } s.name = [] := outOf_eq_nil.mpr h
  simp only [this, uniqueEvents, List.flatMap_nil, List.foldl_nil]

theorem expandAny_any {ev : EvRef} {sts : List SDecl} {c : Cls} {i : Nat} {t : TDef} (ht : c.trans[i]? = some t)
    (hs : t.source = .any) :
    expandAny ev sts c i = (push c ((sts.filter (!·.final)).map fun s => copyFor t s.name ev)).1 := by
  simp [expandAny, ht, hs]

theorem expandAny_eq (ev : EvRef) (sts : List SDecl) (c : Cls) (i : Nat) :
    expandAny ev sts c i = c ∨ ∃ t, c.trans[i]? = some t ∧ t.source = .any ∧
      expandAny ev sts c i = (push c ((sts.filter (!·.final)).map fun s => copyFor t s.name ev)).1 := by
  cases h : c.trans[i]? with
  | none => exact Or.inl (by simp [expandAny, h])
  | some t =>
    by_cases hs : t.source = .any
    · exact Or.inr ⟨t, rfl, hs, expandAny_any h hs⟩
    · exact Or.inl (by simp [expandAny, h, hs])

theorem expandAny_states (ev : EvRef) (sts : List SDecl) (c : Cls) (i : Nat) :
    (expandAny ev sts c i).states = c.states := by
  rcases expandAny_eq ev sts c i with h | ⟨t, _, _, h⟩ <;> rw [h] <;> rfl

theorem expandAny_length (ev : EvRef) (sts : List SDecl) (c : Cls) (i : Nat) :
    c.trans.length ≤ (expandAny ev sts c i).trans.length := by
  rcases expandAny_eq ev sts c i with h | ⟨t, _, _, h⟩ <;> rw [h]
  · exact Nat.le_refl _
  · exact push_length .. ▸ Nat.le_add_right ..

theorem foldl_expandAny_noop (ev : EvRef) (sts : List SDecl) (idxs : List Nat) (c : Cls)
    (h : ∀ i ∈ idxs, ∀ t, c.trans[i]? = some t → t.source ≠ .any) :
    idxs.foldl (expandAny ev sts) c = c :=
  idxs.foldlRecOn (motive := (· = c)) _ rfl fun _ ih i hi => by
    subst ih
    rcases expandAny_eq ev sts _ i with h1 | ⟨t, ht, hs, _⟩
    · exact h1
    · exact absurd hs (h i hi t ht)

def noPh (t : TDef) : Prop := ∀ v, holdsPh t v = false

theorem noPh_of_real {t : TDef} (h : ∀ e ∈ t.events, ∃ id tl, e = .real id tl) : noPh t := by
  intro v
  simp only [holdsPh, List.any_eq_false]
  intro e he
  obtain ⟨id, tl, rfl⟩ := h e he
  simp [EvRef.same]

def replacePh (c : Cls) (v : Name) (x : EvRef) (t : TDef) : TDef :=
  if registered c t && holdsPh t v then
    { t with events := t.events.filter (fun y => !y.same (.ph v)) ++ [x] } else t

theorem updateRef_some (c : Cls) (v : Name) (x : EvRef) :
    updateRef c (v, some x) = { c with trans := c.trans.map (replacePh c v x) } := rfl

theorem map_replacePh (c : Cls) (v : Name) (x : EvRef) (l : List TDef) (hl : ∀ t ∈ l, noPh t) :
    l.map (replacePh c v x) = l := by
  induction l with
  | nil => rfl
  | cons a l ih =>
    rw [List.map_cons, ih (fun t ht => hl t (List.mem_cons_of_mem _ ht)), replacePh, hl a List.mem_cons_self v,
      Bool.and_false, if_neg Bool.false_ne_true]

/-- the sources the calls of an expression name: those of `flat`, and that of a `to()` without targets -/
def TExpr.srcs : TExpr → List Src
  | .to s _ _ => [.st s]
  | .from_ _ ss _ => ss.map .st
  | .toItself s _ => [.st s]
  | .fromItself s _ => [.st s]
  | .fromAny _ _ => [.any]
  | .or a b => a.srcs ++ b.srcs
  | .ref _ => []

def Stmt.srcs : Stmt → List Src
  | .assign _ e => e.srcs
  | .bare e => e.srcs
  | .eventOf _ e => e.srcs
  | .decorated e _ _ => e.srcs
  | .state _ => []
  | .statesDict _ => []
  | .statesEnum _ _ _ => []
  | .placeholder _ => []

def Stmt.decls : Stmt → List SDecl
  | .state s => [s]
  | .statesDict ss => ss
  | .statesEnum ms i fs => enumStates ms i fs
  | _ => []

theorem mem_lookupTL {attrs : List (Name × AttrVal)} {a : Name} {i : Nat} (h : i ∈ lookupTL attrs a) :
    ∃ idxs, (a, AttrVal.tl idxs) ∈ attrs ∧ i ∈ idxs := by
  induction attrs with
  | nil => cases h
  | cons kv rest ih =>
    obtain ⟨k, v⟩ := kv
    unfold lookupTL at h
    split at h
    · rename_i hk
      cases v with
      | tl idxs => exact ⟨idxs, by simp [beq_iff_eq.mp hk], h⟩
      | state s => cases h
      | event tl => cases h
    · obtain ⟨idxs, h1, h2⟩ := ih h
      exact ⟨idxs, List.mem_cons_of_mem _ h1, h2⟩

def TExpr.flat : TExpr → List TDef
  | .to s ts kw => ts.map (mkT (.st s) · kw)
  | .from_ t ss kw => ss.map (fun s => mkT (.st s) t kw)
  | .toItself s kw => [mkT (.st s) s kw]
  | .fromItself s kw => [mkT (.st s) s kw]
  | .fromAny t kw => [mkT .any t kw]
  | .or a b => a.flat ++ b.flat
  | .ref _ => []

theorem evalT_fst (e : TExpr) (c : Cls) : (evalT c e).1 = (push c e.flat).1 := by
  induction e generalizing c with
  | or a b iha ihb => simp only [evalT, TExpr.flat, iha, ihb, push_append]
  | ref k => simp [evalT, TExpr.flat, push]
  | _ => rfl

def TExpr.closed : TExpr → Prop
  | .or a b => a.closed ∧ b.closed
  | .ref _ => False
  | _ => True

theorem evalT_flat (e : TExpr) (he : e.closed) (c : Cls) : evalT c e = push c e.flat := by
  induction e generalizing c with
  | or a b iha ihb => simp only [evalT, TExpr.flat, iha he.1, ihb he.2, push_append]
  | ref k => exact he.elim
  | _ => rfl

theorem mem_flat {e : TExpr} {t : TDef} (h : t ∈ e.flat) :
    ∃ src tgt kw, t = mkT src tgt kw ∧ src ∈ e.srcs := by
  induction e with
  | or a b iha ihb =>
    rcases List.mem_append.mp h with h | h
    · obtain ⟨s, g, k, e1, e2⟩ := iha h
      exact ⟨s, g, k, e1, List.mem_append_left _ e2⟩
    · obtain ⟨s, g, k, e1, e2⟩ := ihb h
      exact ⟨s, g, k, e1, List.mem_append_right _ e2⟩
  | ref k => cases h
  | to s ts kw => obtain ⟨x, _, rfl⟩ := List.mem_map.mp h; exact ⟨_, _, _, rfl, .head _⟩
  | from_ t ss kw =>
    obtain ⟨x, hx, rfl⟩ := List.mem_map.mp h
    exact ⟨_, _, _, rfl, List.mem_map.mpr ⟨x, hx, rfl⟩⟩
  | _ => rw [List.mem_singleton.mp h]; exact ⟨_, _, _, rfl, .head _⟩

theorem mem_evalT_snd {e : TExpr} {c : Cls} {i : Nat} (h : i ∈ (evalT c e).2) :
    (c.trans.length ≤ i ∧ i < c.trans.length + e.flat.length) ∨ ∃ a, i ∈ lookupTL c.attrs a := by
  induction e generalizing c with
  | or a b iha ihb =>
    simp only [evalT, List.mem_append] at h
    simp only [TExpr.flat, List.length_append]
    rcases h with h | h
    · rcases iha h with h1 | h1
      · exact Or.inl ⟨h1.1, Nat.lt_of_lt_of_le h1.2 (Nat.add_le_add_left (Nat.le_add_right ..) _)⟩
      · exact Or.inr h1
    · rcases ihb h with h1 | h1
      · rw [evalT_fst, push_length] at h1
        exact Or.inl ⟨Nat.le_trans (Nat.le_add_right ..) h1.1, Nat.add_assoc .. ▸ h1.2⟩
      · rw [evalT_fst] at h1
        exact Or.inr h1
  | ref k => exact Or.inr ⟨k, h⟩
  | _ => exact Or.inl (mem_push_snd h)

end SMV.Decl
