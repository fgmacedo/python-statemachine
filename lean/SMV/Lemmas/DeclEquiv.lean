import SMV.Model.Decl
import SMV.Lemmas.DeclEngine
/-!
# From declaration equivalence (`Decl.Equiv`) to engine equivalence (`MEquiv`)
-/
namespace SMV.Decl

theorem applicable_append (e : EventId) (a b : List CbSpec) :
    applicable e (a ++ b) = applicable e a ++ applicable e b := by
  simp [applicable, List.filter_append]

theorem applicable_plain (e : EventId) (l : List CbId) : applicable e (plain l) = l := by
  induction l with
  | nil => rfl
  | cons c cs ih => exact congrArg (c :: ·) ih

theorem applicable_only (e e' : EventId) (l : List CbId) :
    applicable e (l.map fun c => ({ id := c, only := some e' } : CbSpec)) = if e' == e then l else [] := by
  -- on these specs the filter's predicate is the constant `e' == e`
  cases h : e' == e <;> simp [applicable, List.filter_map, Function.comp_def, h]

theorem applicable_convAux (conv : Name → List CbId) (e : EventId) (l seen : List Name) :
    applicable e (convAux conv l seen) = if e ∈ l ∧ e ∉ seen then conv e else [] := by
  induction l generalizing seen with
  | nil => simp [convAux, applicable]
  | cons a l ih =>
    unfold convAux
    by_cases hs : a ∈ seen
    · -- `a` is skipped, and an unseen `e` is not `a`
      have hl : e ∉ seen → (e ∈ a :: l ↔ e ∈ l) := fun he =>
        List.mem_cons.trans (or_iff_right fun h => he (h ▸ hs))
      rw [if_pos (List.contains_iff_mem.mpr hs), ih]
      simp only [and_congr_left hl]
    · -- `a`'s block comes first and `a` counts as seen for the rest: for `e = a` the block is the answer
      -- and the rest gives nothing; for `e ≠ a` the block gives nothing
      rw [if_neg (mt List.contains_iff_mem.mp hs), applicable_append, applicable_only, ih]
      by_cases hae : a = e
      · subst hae
        simp [hs]
      · simp [hae, Ne.symm hae]

theorem applicable_conv (conv : Name → List CbId) (e : EventId) (l : List CbId) (evs : List Name)
    (h : e ∈ evs) : applicable e (plain l ++ convOf conv evs) = l ++ conv e := by
  simp [applicable_append, applicable_plain, convOf, applicable_convAux, h]

/-- how the engine sees candidate `k` of state `n` for event `e`; of the class only the list of states is used -/
def viewOfCand (env : Env) (c : Cls) (n : Name) (e : EventId) (k : Cand) : View :=
  ⟨stateIdx c n, stateIdx c k.target, k.internal, k.validators, k.conds,
   env.genBefore ++ k.before ++ env.convBefore e, env.genOn ++ k.on ++ env.convOn e,
   env.genAfter ++ k.after ++ env.convAfter e⟩

theorem view_toTransn (env : Env) (c : Cls) (n : Name) (e : EventId) (t : TDef)
    (h : e ∈ finalEvents t) :
    view e (toTransn env c n t) = viewOfCand env c n e (cand t) := by
  simp only [view, toTransn, viewOfCand, cand, applicable_conv _ e _ _ h]

theorem viewOfCand_states (env : Env) {c₁ c₂ : Cls} (h : c₁.states = c₂.states) (n : Name) (e : EventId) :
    viewOfCand env c₁ n e = viewOfCand env c₂ n e := by
  funext k
  simp [viewOfCand, stateIdx, h]

theorem candViews_toMachine (env : Env) (c : Cls) (i : StateId) (e : EventId) :
    candViews (toMachine env c) i e =
      match c.states[i]? with
      | none => []
      | some sd => (cands c sd.name e).map (viewOfCand env c sd.name e) := by
  unfold candViews out stateDef toMachine
  simp only [List.getD_eq_getElem?_getD, List.getElem?_map]
  cases hi : c.states[i]? with
  | none => rfl
  | some sd =>
    simp only [Option.map_some, Option.getD_some, toStateDef, cands, List.filter_map, List.map_map]
    exact List.map_congr_left fun t ht =>
      view_toTransn env c sd.name e t (List.contains_iff_mem.mp (List.mem_filter.mp ht).2)

theorem cores_toMachine (env : Env) (c : Cls) :
    (toMachine env c).states.map stateCore =
      c.states.map fun s => ⟨valOf s, s.initial, s.final, s.enter ++ env.convEnter s.name,
        s.exit ++ env.convExit s.name⟩ := by
  simp [toMachine, toStateDef, stateCore, Function.comp_def]

/-- `≈` classes denote engine-equivalent machines, whatever the user code and options are -/
theorem Equiv.toMachine (env : Env) {c₁ c₂ : Cls} (E : Equiv c₁ c₂) :
    MEquiv (toMachine env c₁) (toMachine env c₂) where
  behav := ⟨rfl, rfl⟩
  truthy := rfl
  allow := rfl
  startValue := rfl
  cores := by rw [cores_toMachine, cores_toMachine, E.states]
  cands := by
    intro i e
    rw [candViews_toMachine, candViews_toMachine, ← E.states]
    cases hi : c₁.states[i]? with
    | none => rfl
    | some sd =>
      simp only  -- reduces the `match` on `some sd`
      rw [E.cands sd (List.mem_of_getElem? hi) e, viewOfCand_states env E.states]

theorem Equiv.refl (c : Cls) : Equiv c c := ⟨rfl, fun _ => Iff.rfl, fun _ _ _ => rfl, rfl⟩

theorem Equiv.symm {a b : Cls} (h : Equiv a b) : Equiv b a :=
  ⟨h.states.symm, fun e => (h.events e).symm, fun s hs e => (h.cands s (h.states ▸ hs) e).symm, h.err.symm⟩

theorem Equiv.trans {a b c : Cls} (h1 : Equiv a b) (h2 : Equiv b c) : Equiv a c :=
  ⟨h1.states.trans h2.states, fun e => (h1.events e).trans (h2.events e),
   fun s hs e => (h1.cands s hs e).trans (h2.cands s (h1.states ▸ hs) e), h1.err.trans h2.err⟩

end SMV.Decl
