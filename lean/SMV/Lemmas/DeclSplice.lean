import SMV.Lemmas.DeclMeta
/-!
`spl n X c`: the class `c` with store entry `n` replaced by the block `X` (for `from_.any()` versus
explicit `from_(…)`: entry `n` is the `AnyState` transition, `X` the explicit transitions, which carry no
event yet). The metaclass steps commute with `spl n X` as long as `Inv n tA names` holds.
-/
namespace SMV.Decl

def splice (n : Nat) (X : List TDef) (l : List TDef) : List TDef := l.take n ++ X ++ l.drop (n + 1)

def spl (n : Nat) (X : List TDef) (c : Cls) : Cls := { c with trans := splice n X c.trans }

theorem push_spl (c : Cls) (a : TDef) (X : List TDef) (ha : badInternal a = false)
    (hX : X.any badInternal = false) : (push c X).1 = spl c.trans.length X (push c [a]).1 := by
  -- `take |l| (l ++ [a]) = l` and `drop (|l| + 1) (l ++ [a]) = []`, for `l = c.trans`
  simp [spl, splice, push, ha, hX]

section
variable {n : Nat} {X : List TDef}

theorem splice_getElem? (l : List TDef) (i : Nat) (hi : i < n) (hn : n < l.length) :
    (splice n X l)[i]? = l[i]? := by
  rw [splice, List.append_assoc,
    List.getElem?_append_left (by rw [List.length_take_of_le (Nat.le_of_lt hn)]; exact hi),
    List.getElem?_take_of_lt hi]

theorem splice_modify (l : List TDef) (i : Nat) (f : TDef → TDef) (hi : i < n) (hn : n < l.length) :
    splice n X (l.modify i f) = (splice n X l).modify i f := by
  rw [splice, splice, List.take_modify, List.drop_modify_of_lt _ _ _ _ (Nat.lt_succ_of_lt hi), List.append_assoc,
    List.append_assoc,
    List.modify_append_left _ _ _ _ (by rw [List.length_take_of_le (Nat.le_of_lt hn)]; exact hi)]

theorem splice_append (l ts : List TDef) (hn : n < l.length) :
    splice n X (l ++ ts) = splice n X l ++ ts := by
  simp only [splice, List.take_append_of_le_length (Nat.le_of_lt hn),
    List.drop_append_of_le_length (Nat.succ_le_of_lt hn), List.append_assoc]

theorem splice_length (l : List TDef) (hn : n < l.length) :
    (splice n X l).length + 1 = l.length + X.length := by
  -- `n + |X| + (|l| - (n + 1)) + 1`, regrouped as `n + 1 + (|l| - (n + 1)) + |X|`
  rw [splice, List.length_append, List.length_append, List.length_take_of_le (Nat.le_of_lt hn), List.length_drop,
    Nat.add_right_comm, Nat.add_right_comm n, Nat.add_right_comm (n + 1), Nat.add_sub_cancel' hn]

theorem split_at {l : List TDef} {a : TDef} (h : l[n]? = some a) :
    l = l.take n ++ a :: l.drop (n + 1) := by
  obtain ⟨hn, ha⟩ := List.getElem?_eq_some_iff.mp h
  rw [← ha, ← List.drop_eq_getElem_cons hn, List.take_append_drop]

@[simp] theorem spl_states (c : Cls) : (spl n X c).states = c.states := rfl
@[simp] theorem spl_events (c : Cls) : (spl n X c).events = c.events := rfl
@[simp] theorem spl_pending (c : Cls) : (spl n X c).pending = c.pending := rfl
@[simp] theorem spl_err (c : Cls) : (spl n X c).err = c.err := rfl
@[simp] theorem spl_attrs (c : Cls) : (spl n X c).attrs = c.attrs := rfl
@[simp] theorem spl_trans (c : Cls) : (spl n X c).trans = splice n X c.trans := rfl

theorem expandAny_spl (ev : EvRef) (sts : List SDecl) (c : Cls) (i : Nat) (hi : i < n)
    (hn : n < c.trans.length) :
    expandAny ev sts (spl n X c) i = spl n X (expandAny ev sts c i) := by
  unfold expandAny
  rw [spl_trans, splice_getElem? _ _ hi hn]
  cases h : c.trans[i]? with
  | none => rfl
  | some t =>
    simp only  -- reduces the `match` on `some t`
    split
    · simp only [push, spl, splice_append _ _ hn]
    · rfl

theorem onEventDefined_spl (c : Cls) (id : Name) (idxs : List Nat) (hi : ∀ i ∈ idxs, i < n)
    (hn : n < c.trans.length) :
    onEventDefined (spl n X c) id idxs = spl n X (onEventDefined c id idxs) := by
  have h1 := List.foldl_commute (splice n X)
    (modifyAt fun t => { t with events := addEv t.events (.real id (some idxs)) }) (fun l => n < l.length) idxs
    (hJ := fun l hl _ _ => (List.length_modify ..).symm ▸ hl)
    (hc := fun l hl i h => (splice_modify l i _ (hi i h) hl).symm) hn
  simp only [onEventDefined, spl_states, spl_trans, h1]
  rw [← List.foldl_commute (spl n X) (expandAny _ _) (fun c => n < c.trans.length) idxs
    (hJ := fun c hc i _ => Nat.lt_of_lt_of_le hc (expandAny_length _ _ c i))
    (hc := fun c hc i h => expandAny_spl _ _ c i (hi i h) hc) ?_]
  · rfl
  · simpa [foldl_modify_length] using hn

theorem addEvent_spl (c : Cls) (ev : EvRef) (hl : ∀ i ∈ ev.tl, i < n) (hn : n < c.trans.length) :
    addEvent (spl n X c) ev = spl n X (addEvent c ev) := by
  cases ev with
  | ph v =>
    simp only [addEvent, spl_pending, apply_ite (spl n X)]
    rfl
  | real id tl =>
    rw [addEvent_real, addEvent_real, onEventDefined_spl c id _ hl hn]
    simp only [regEv, spl_events, apply_ite (spl n X)]
    rfl

/-- store entry `n` is `tA`; an event reference that carries a transition list is named in `names` and lists
indices below `n` only; the entries beyond `n` are `AnyState` expansions: one such event each, out of a
registered state. The event defined next is not in `names`, so none of them carries it (`finRel_of_inv`). -/
structure Inv (n : Nat) (tA : TDef) (names : List Name) (c : Cls) : Prop where
  atn : c.trans[n]? = some tA
  ok : ∀ t ∈ c.trans, ∀ ev ∈ t.events, okEv n names ev
  tail : ∀ t ∈ c.trans.drop (n + 1), (∃ k idxs, t.events = [.real k (some idxs)]) ∧
    ∃ s ∈ c.states, t.source = .st s.name

variable {tA : TDef} {names : List Name}

theorem Inv.lt {c : Cls} (h : Inv n tA names c) : n < c.trans.length :=
  (List.getElem?_eq_some_iff.mp h.atn).1

theorem Inv.states {c : Cls} (h : Inv n tA names c) (s : SDecl) :
    Inv n tA names { c with states := c.states ++ [s] } :=
  ⟨h.atn, h.ok, fun t ht =>
    have ⟨hev, s', hs', e⟩ := h.tail t ht
    ⟨hev, s', List.mem_append_left _ hs', e⟩⟩

/-- entry `n` and the expansions behind it are never listed, new expansions go to the end -/
theorem kept_inv (n : Nat) (tA : TDef) (names : List Name) :
    Kept (okEv n names) (fun _ => True) (Inv n tA names) where
  congr ht hs _ h := ⟨ht ▸ h.atn, ht ▸ h.ok, by rw [ht, hs]; exact h.tail⟩
  event {c ev i} h hA hi := by
    have hin : i < n := hA.tl_lt i hi
    refine ⟨?_, forall_modify (fun t ht => forall_addEv ht hA) h.ok i, ?_⟩
    · exact (List.getElem?_modify_ne _ _ (Nat.ne_of_lt hin)).trans h.atn
    · show ∀ t ∈ (c.trans.modify i _).drop (n + 1), _
      rw [List.drop_modify_of_lt _ _ _ _ (Nat.lt_succ_of_lt hin)]
      exact h.tail
  expand {c ev i t} h hA hi _ _ := by
    obtain ⟨k, idxs, rfl⟩ := eq_real_of_mem_tl hi
    have hnew : ∀ t' ∈ (c.states.filter (!·.final)).map (fun s => copyFor t s.name (.real k (some idxs))),
        t'.events = [.real k (some idxs)] ∧ ∃ s ∈ c.states, t'.source = .st s.name :=
      List.forall_mem_map.mpr fun s hs => ⟨rfl, s, (List.mem_filter.mp hs).1, rfl⟩
    refine ⟨?_, ?_, ?_⟩
    · exact (List.getElem?_append_left h.lt).trans h.atn
    · refine List.forall_mem_append.mpr ⟨h.ok, fun t' h1 ev hev => ?_⟩
      rw [(hnew t' h1).1, List.mem_singleton] at hev
      exact hev ▸ hA
    · show ∀ t' ∈ (c.trans ++ _).drop (n + 1), _
      rw [List.drop_append_of_le_length h.lt]
      exact List.forall_mem_append.mpr ⟨h.tail, fun t' h1 => ⟨⟨k, idxs, (hnew t' h1).1⟩, (hnew t' h1).2⟩⟩
  state h _ := h.states _
  found h _ t ht _ := h.ok t ht

/-- `add_state` finds the same events on both stores: `tA` leaves no state, `X` carries no event -/
theorem outOf_spl_events {c : Cls} (hat : c.trans[n]? = some tA) (hA : tA.source = .any)
    (hX : ∀ x ∈ X, x.events = []) (s : Name) :
    (outOf (spl n X c) s).flatMap (·.events) = (outOf c s).flatMap (·.events) := by
  have h0 : (X.filter fun x => x.source == Src.st s).flatMap (·.events) = [] :=
    List.flatMap_eq_nil_iff.mpr fun x hx => hX x (List.mem_filter.mp hx).1
  simp only [outOf, spl_trans, splice]
  -- on the right only: on the left `c.trans` stands under `take` and `drop`
  conv => rhs; rw [split_at hat]
  simp [List.filter_append, hA, h0]

theorem processAttr_spl {c : Cls} (h : Inv n tA names c) (hA : tA.source = .any)
    (hX : ∀ x ∈ X, x.events = []) (a : Name × AttrVal) (ha : okAttr n names a) :
    processAttr (spl n X c) a = spl n X (processAttr c a) := by
  obtain ⟨k, v⟩ := a
  cases v with
  | state s =>
    show addState _ s = spl n X (addState c s)
    rw [addState_eq, addState_eq, uniqueEvents, outOf_spl_events h.atn hA hX]
    refine List.foldl_commute (spl n X) addEvent (fun c => n < c.trans.length) _
      (hJ := fun c hc _ _ => (kept_length (n + 1)).addEvent hc trivial)  -- `n < k` unfolds to `n + 1 ≤ k`
      (hc := fun c hc ev hev => addEvent_spl c ev ?_ hc) (b := { c with states := c.states ++ [s] }) h.lt
    obtain ⟨t, ht, hx⟩ := mem_uniqueEvents hev
    exact (h.ok t (List.mem_filter.mp ht).1 ev hx).tl_lt
  | tl idxs => exact addEvent_spl c _ (okEv.tl_lt (ev := .real k (some idxs)) ha) h.lt
  | event tl =>
    simp only [processAttr]
    rw [addEvent_spl c _ (okEv.tl_lt (ev := .real k (normTl tl)) ha) h.lt]
    rfl

theorem foldl_processAttr_spl (hA : tA.source = .any) (hX : ∀ x ∈ X, x.events = [])
    (attrs : List (Name × AttrVal)) (c : Cls) (h : Inv n tA names c) (ha : ∀ a ∈ attrs, okAttr n names a) :
    attrs.foldl processAttr (spl n X c) = spl n X (attrs.foldl processAttr c) :=
  List.foldl_commute (spl n X) processAttr (Inv n tA names) attrs
    (hJ := fun _ hc a hm => (kept_inv n tA names).processAttr hc (ha a hm))
    (hc := fun _ hc a hm => processAttr_spl hc hA hX a (ha a hm)) h

end
end SMV.Decl
