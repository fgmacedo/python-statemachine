import SMV.Lemmas.BinderBase
import SMV.Lemmas.ListAux
/-!
# `bind_expected` (C07): what it stores for each parameter

The first loop pairs the leading positional parameters with the positional arguments and stops where either runs out
or the next parameter is not positional (`Split`); the second loop has a closed form. Together they give `arguments` as
four segments (`boundArgs`, `bind_closed`). Read off parameter by parameter, in terms of the signature and the caller's
arguments only (`bound`, `leftover`), this is what the other files use: `bind_lookup` with its two readings
`entry_reached`, `entry_unreached`, and `bind_none_iff` (when it raises); `baKwargs_nodup` alone goes back to the split.
`phase1_prefix` holds of both trees; from `phase1_stop` on `fixed = true`: the tree as found (D5) gets witnesses
(`C07_as_is_…`), no general theorem.
-/
namespace SMV.Bind

/-- what the first loop stores for the `i`-th parameter when a positional argument reaches it (`i < args.length`, so the
`0` of `getD` is never taken: `ha` in `phase1_prefix`) -/
def posEntry (args : List Val) (kw : KW) (i : Nat) (p : Param) : Name × ArgVal :=
  (p.name, .one (match p.kind, kwGet kw p.name with
                 | .pk, some v => v
                 | _, _ => args.getD i 0))

def posEntries (args : List Val) (kw : KW) (i : Nat) : List Param → Arguments
  | [] => []
  | p :: ps => posEntry args kw i p :: posEntries args kw (i + 1) ps

/-- the keywords left once the reached positional-or-keyword parameters have taken theirs -/
def eraseNames (kw : KW) : List Param → KW
  | [] => kw
  | p :: ps => eraseNames (if p.kind = .pk then kwErase kw p.name else kw) ps

theorem posEntries_kw_irrelevant (args : List Val) (kw : KW) (m : Name) (i : Nat) (ps : List Param)
    (h : ∀ p ∈ ps, p.name ≠ m) :
    posEntries args (kwErase kw m) i ps = posEntries args kw i ps := by
  induction ps generalizing i with
  | nil => rfl
  | cons p ps ih =>
    have hp := h p (List.mem_cons_self)
    simp only [posEntries, posEntry, kwGet_erase_ne kw m p.name hp]
    rw [ih _ (fun q hq => h q (List.mem_cons_of_mem _ hq))]

/-- `all` is the caller's positional arguments, of which the loop has used up the first `i` (`args` is what is left):
the induction moves `i` and `args`, and `posEntries` stays a function of `all`. -/
theorem phase1_prefix (fixed : Bool) (pre rest : List Param) (args : List Val) (kw : KW)
    (acc : Arguments) (i : Nat) (all : List Val)
    (hpos : ∀ p ∈ pre, isPos p = true) (hnd : (pre.map (·.name)).Nodup)
    (hlen : pre.length ≤ args.length) (hall : args = all.drop i) :
    phase1 fixed (pre ++ rest) args kw acc =
      phase1 fixed rest (args.drop pre.length) (eraseNames kw pre) (acc ++ posEntries all kw i pre) := by
  induction pre generalizing args kw acc i with
  | nil => simp [posEntries, eraseNames]
  | cons p ps ih =>
    cases args with
    | nil => simp at hlen
    | cons a as =>
      have hp := hpos p (List.mem_cons_self)
      have ha : all.getD i 0 = a := by
        rw [List.getD_eq_getElem?_getD, ← List.head?_drop, ← hall]; rfl
      have hrest : as = all.drop (i + 1) := by
        rw [← List.tail_drop, ← hall]; rfl
      have ih' := fun kw acc => ih as kw acc (i + 1) (fun q hq => hpos q (List.mem_cons_of_mem _ hq))
        (List.nodup_cons.mp hnd).2 (Nat.le_of_succ_le_succ hlen) hrest
      rw [List.cons_append, List.length_cons, List.drop_succ_cons, phase1, posEntries, posEntry, eraseNames, ha]
      rcases (isPos_iff p).mp hp with hk | hk <;> simp only [hk]
      · rw [ih', List.append_assoc]; rfl
      · cases hg : kwGet kw p.name with
        | none => simp only [if_true]; rw [ih', kwErase_absent kw p.name hg, List.append_assoc]; rfl
        | some v =>
          simp only [if_true]
          rw [ih', posEntries_kw_irrelevant _ _ _ _ _ (name_ne_head hnd), List.append_assoc]; rfl

theorem posEntries_keys (args : List Val) (kw : KW) (i : Nat) (ps : List Param) :
    (posEntries args kw i ps).map (·.1) = ps.map (·.name) := by
  induction ps generalizing i with
  | nil => rfl
  | cons p ps ih => exact congrArg (p.name :: ·) (ih (i + 1))

theorem posEntries_lookup (args : List Val) (kw : KW) (i : Nat) (ps : List Param)
    (hnd : (ps.map (·.name)).Nodup) (j : Nat) (p : Param) (hj : ps[j]? = some p) :
    lookup (posEntries args kw i ps) p.name = some (posEntry args kw (i + j) p).2 := by
  induction ps generalizing i j with
  | nil => cases hj
  | cons q qs ih =>
    cases j with
    | zero => cases hj; exact if_pos rfl
    | succ j =>
      have hj : qs[j]? = some p := hj
      have hne : q.name ≠ p.name := (name_ne_head hnd p (List.mem_of_getElem? hj)).symm
      rw [posEntries, lookup, posEntry, if_neg hne, ih (i + 1) (List.nodup_cons.mp hnd).2 j hj, Nat.add_right_comm,
        Nat.add_assoc]

/-- entries the second loop adds -/
def kwEntries : List Param → KW → Arguments
  | [], _ => []
  | p :: rest, kw =>
    if named p then
      match kwGet kw p.name with
      | some v => (p.name, .one v) :: kwEntries rest (kwErase kw p.name)
      | none => kwEntries rest kw
    else kwEntries rest kw

/-- `kwargs_param` after the second loop -/
def lastVk : List Param → Option Param → Option Param
  | [], vk => vk
  | p :: ps, vk => lastVk ps (if p.kind = .vk then some p else vk)

theorem phase2_eq (ps : List Param) (kw : KW) (acc : Arguments) (vk : Option Param) :
    phase2 ps kw acc vk =
      (acc ++ kwEntries ps kw, kw.filter (fun e => !ps.any fun p => named p && p.name == e.1), lastVk ps vk) := by
  induction ps generalizing kw acc vk with
  | nil => simp [phase2, kwEntries, lastVk, List.filter_eq_self.mpr]
  | cons p rest ih =>
    rw [phase2, kwEntries, lastVk]
    split
    next hk => simp [named, hk, ih]
    next hk => simp [named, hk, ih]
    next h1 h2 =>
      have hn : named p = true := by simpa [named] using And.intro h2 h1
      have hv : ¬ p.kind = .vk := h1
      -- popping `p.name` (a no-op when it is absent) is filtering it out
      have he := kwErase_filter kw p.name (fun n => rest.any fun p => named p && p.name == n)
      cases hg : kwGet kw p.name with
      | none => rw [kwErase_absent kw p.name hg] at he; simp [hn, hv, ih, he]
      | some v => simp [hn, hv, ih, he]

theorem phase2_acc (ps : List Param) (kw : KW) (acc : Arguments) (vk : Option Param) :
    (phase2 ps kw acc vk).1 = acc ++ kwEntries ps kw := by
  rw [phase2_eq]

theorem kwEntries_lookup_none (ps : List Param) (kw : KW) (n : Name) (h : ∀ p ∈ ps, named p = true → p.name ≠ n) :
    lookup (kwEntries ps kw) n = none := by
  induction ps generalizing kw with
  | nil => rfl
  | cons p ps ih =>
    have ih' := fun kw => ih kw fun q hq => h q (List.mem_cons_of_mem _ hq)
    unfold kwEntries
    split
    next hn =>
      split
      · rw [lookup, if_neg (h p List.mem_cons_self hn), ih']
      · exact ih' _
    · exact ih' _

theorem kwEntries_lookup (ps : List Param) (kw : KW) (hnd : (ps.map (·.name)).Nodup)
    (p : Param) (hp : p ∈ ps) :
    lookup (kwEntries ps kw) p.name = if named p then (kwGet kw p.name).map .one else none := by
  induction ps generalizing kw with
  | nil => cases hp
  | cons q qs ih =>
    have hne := name_ne_head hnd
    have hnd := (List.nodup_cons.mp hnd).2
    rcases List.mem_cons.mp hp with rfl | hp'
    · have htl := fun kw => kwEntries_lookup_none qs kw p.name (fun r hr _ => hne r hr)
      unfold kwEntries
      split
      · cases hg : kwGet kw p.name with
        | some v => simp [lookup]
        | none => simp [htl]
      · simp [htl]
    · have hpq : p.name ≠ q.name := hne p hp'
      unfold kwEntries
      split
      · cases hg : kwGet kw q.name with
        | some v =>
          simp only [lookup, Ne.symm hpq, if_false]
          rw [ih _ hnd hp', kwGet_erase_ne kw q.name p.name hpq]
        | none => exact ih _ hnd hp'
      · exact ih _ hnd hp'

/-- `sig = pre ++ rest`: `pre` are the positional parameters reached by one of the `n` positional arguments; the
first loop stops at `rest` (no argument left, or no positional parameter next). -/
structure Split (sig : List Param) (n : Nat) (pre rest : List Param) : Prop where
  eq : sig = pre ++ rest
  pos : ∀ p ∈ pre, isPos p = true
  len : pre.length ≤ n
  stop : pre.length = n ∨ ∀ p ∈ rest.head?, isPos p = false

theorem exists_split (sig : List Param) (n : Nat) : ∃ pre rest, Split sig n pre rest := by
  induction sig generalizing n with
  | nil => exact ⟨[], [], rfl, List.forall_mem_nil _, Nat.zero_le n, .inr (by simp)⟩
  | cons p ps ih =>
    cases n with
    | zero => exact ⟨[], p :: ps, rfl, List.forall_mem_nil _, Nat.le_refl 0, .inl rfl⟩
    | succ n =>
      by_cases hp : isPos p = true
      · obtain ⟨pre, rest, h⟩ := ih n
        exact ⟨p :: pre, rest, congrArg (p :: ·) h.eq, List.forall_mem_cons.mpr ⟨hp, h.pos⟩,
          Nat.succ_le_succ h.len, h.stop.imp (congrArg Nat.succ) id⟩
      · exact ⟨[], p :: ps, rfl, List.forall_mem_nil _, Nat.zero_le _, .inr (by simpa using hp)⟩

/-- the `*args` entry written by the first loop -/
def vpEntry : List Param → List Val → Arguments
  | p :: _, a :: as => if p.kind = .vp then [(p.name, .tuple (a :: as))] else []
  | _, _ => []

/-- the first loop raises -/
def blocked : List Param → List Val → KW → Bool
  | p :: _, [], kw => p.kind == .po && (kwGet kw p.name).isSome
  | _, _, _ => false

theorem finalize_vk (p : Param) (ps : List Param) (kw : KW) (acc : Arguments) (vk : Option Param)
    (hk : p.kind = .vk) : finalize (p :: ps) kw acc vk = finalize ps kw acc (some p) := by
  rw [finalize, phase2, hk]; rfl

theorem finalize_vp (p : Param) (ps : List Param) (kw : KW) (acc : Arguments) (vk : Option Param)
    (hk : p.kind = .vp) : finalize (p :: ps) kw acc vk = finalize ps kw acc vk := by
  rw [finalize, phase2, hk]; rfl

theorem bindExpected_eq (fixed : Bool) (sig : List Param) (args : List Val) (kw : KW) :
    bindExpected fixed sig args kw =
      (phase1 fixed sig args kw []).map fun r => finalize r.rest r.kw r.args r.vk := by
  unfold bindExpected; cases phase1 fixed sig args kw [] <;> rfl

theorem phase1_stop (rest : List Param) (as : List Val) (kw : KW) (acc : Arguments)
    (h : as = [] ∨ ∀ p ∈ rest.head?, isPos p = false) :
    (phase1 true rest as kw acc).map (fun r => finalize r.rest r.kw r.args r.vk) =
      if blocked rest as kw then none else some (finalize rest kw (acc ++ vpEntry rest as) none) := by
  cases rest with
  | nil => simp [blocked, phase1, vpEntry]
  | cons p ps =>
    cases as with
    | nil =>
      by_cases hvp : p.kind = .vp
      · simp [blocked, phase1, vpEntry, hvp, finalize_vp]
      by_cases hpo : p.kind = .po
      · cases hg : kwGet kw p.name <;> simp [blocked, phase1, vpEntry, hpo, hg]
      · simp [blocked, phase1, vpEntry, hvp, hpo]
    | cons a as =>
      -- arguments are left, so the head is not positional: `*args`, keyword-only or `**kwargs`
      have hp : isPos p = false := h.resolve_left (List.cons_ne_nil _ _) p rfl
      cases hk : p.kind
      case po | pk => simp [isPos, hk] at hp
      all_goals simp [blocked, phase1, vpEntry, hk, finalize_vp, finalize_vk]

/-- the `**kwargs` entry written at the end -/
def vkEntry : Option Param → KW → Arguments
  | some p, d => if d.isEmpty then [] else [(p.name, .dict d)]
  | none, _ => []

theorem finalize_closed (ps : List Param) (kw : KW) (acc : Arguments) :
    finalize ps kw acc none = acc ++ kwEntries ps kw ++
      vkEntry (lastVk ps none) (kw.filter fun e => !ps.any fun p => named p && p.name == e.1) := by
  simp only [finalize, phase2_eq]
  cases lastVk ps none with
  | none => simp [vkEntry]
  | some p => simp only [vkEntry]; split <;> simp

/-- what the two loops leave of the keywords, on the split (`kwLeft_eq`: it is `leftover`) -/
def kwLeft (kw : KW) (pre rest : List Param) : KW :=
  (eraseNames kw pre).filter fun e => !rest.any fun p => named p && p.name == e.1

/-- closed form of `bind_expected(*args, **kw).arguments` -/
def boundArgs (pre rest : List Param) (args : List Val) (kw : KW) : Arguments :=
  posEntries args kw 0 pre ++ vpEntry rest (args.drop pre.length) ++ kwEntries rest (eraseNames kw pre) ++
    vkEntry (lastVk rest none) (kwLeft kw pre rest)

theorem split_nodup {sig pre rest : List Param} {n : Nat} (hsp : Split sig n pre rest)
    (hnd : (sig.map (·.name)).Nodup) :
    (pre.map (·.name)).Nodup ∧ (rest.map (·.name)).Nodup ∧ ∀ q ∈ pre, ∀ p ∈ rest, q.name ≠ p.name := by
  rw [hsp.eq, List.map_append] at hnd
  obtain ⟨h1, h2, h3⟩ := List.nodup_append.mp hnd
  exact ⟨h1, h2, fun q hq p hp => h3 _ (List.mem_map_of_mem hq) _ (List.mem_map_of_mem hp)⟩

theorem bind_closed (sig : List Param) (args : List Val) (kw : KW) (pre rest : List Param)
    (hsp : Split sig args.length pre rest) (hnd : (sig.map (·.name)).Nodup) :
    bindExpected true sig args kw =
      if blocked rest (args.drop pre.length) (eraseNames kw pre) then none
      else some (boundArgs pre rest args kw) := by
  rw [bindExpected_eq, hsp.eq,
    phase1_prefix true pre rest args kw [] 0 args hsp.pos (split_nodup hsp hnd).1 hsp.len (by simp),
    phase1_stop _ _ _ _ (hsp.stop.imp (fun h => by simp [h]) id), finalize_closed]
  simp only [boundArgs, kwLeft, List.nil_append, List.append_assoc]

theorem eraseNames_eq_filter (kw : KW) (pre : List Param) :
    eraseNames kw pre = kw.filter (fun e => !pre.any fun p => p.kind == .pk && p.name == e.1) := by
  induction pre generalizing kw with
  | nil => exact (List.filter_eq_self.mpr (fun _ _ => rfl)).symm
  | cons p ps ih =>
    rw [eraseNames, ih]
    split
    next hk =>
      rw [kwErase_filter kw p.name fun n => ps.any fun p => p.kind == .pk && p.name == n]
      simp [hk]
    next hk =>
      have : (p.kind == Kind.pk) = false := by simpa using hk
      simp [this]

theorem kwGet_eraseNames_ne (kw : KW) (pre : List Param) (n : Name) (h : ∀ p ∈ pre, p.name ≠ n) :
    kwGet (eraseNames kw pre) n = kwGet kw n := by
  rw [eraseNames_eq_filter, kwGet_filter kw fun m => !pre.any fun p => p.kind == .pk && p.name == m, if_pos]
  rw [Bool.not_eq_true', List.any_eq_false]
  exact fun p hp => by rw [beq_false_of_ne (h p hp), Bool.and_false]; exact Bool.false_ne_true

theorem vpEntry_lookup_none (rest : List Param) (as : List Val) (n : Name)
    (h : ∀ q ∈ rest, q.kind = .vp → q.name ≠ n) : lookup (vpEntry rest as) n = none := by
  cases rest with
  | nil => rfl
  | cons p ps =>
    cases as with
    | nil => rfl
    | cons a as =>
      simp only [vpEntry]
      split
      next hk => simp [lookup, h p List.mem_cons_self hk]
      · rfl

theorem vkEntry_lookup_none (o : Option Param) (d : KW) (n : Name) (h : ∀ q, o = some q → q.name ≠ n) :
    lookup (vkEntry o d) n = none := by
  cases o with
  | none => rfl
  | some q => simp only [vkEntry]; split <;> simp [lookup, h q rfl]

theorem lastVk_mem (ps : List Param) (v : Option Param) (p : Param) (h : lastVk ps v = some p) :
    v = some p ∨ (p ∈ ps ∧ p.kind = .vk) := by
  induction ps generalizing v with
  | nil => exact Or.inl h
  | cons q qs ih =>
    simp only [lastVk] at h
    rcases ih _ h with h1 | ⟨h1, h2⟩
    · split at h1
      next hk => cases h1; exact Or.inr ⟨List.mem_cons_self, hk⟩
      · exact Or.inl h1
    · exact Or.inr ⟨List.mem_cons_of_mem _ h1, h2⟩

theorem lastVk_sorted (ps : List Param) (v : Option Param) (p : Param) (hs : Sorted ps) (hp : p ∈ ps)
    (hk : p.kind = .vk) : lastVk ps v = some p := by
  induction ps generalizing v with
  | nil => cases hp
  | cons q qs ih =>
    rcases List.mem_cons.mp hp with rfl | hp'
    · obtain rfl := sorted_vk_last hs hk
      simp [lastVk, hk]
    · simp only [lastVk]
      exact ih _ (List.pairwise_cons.mp hs).2 hp'

section entries
variable {sig : List Param} {args : List Val} {kw : KW} {pre rest : List Param}

theorem split_sorted (hsp : Split sig args.length pre rest) (hs : Sorted sig) : Sorted rest := by
  rw [hsp.eq] at hs
  exact (List.pairwise_append.mp hs).2.1

theorem rest_pos_exhausted (hsp : Split sig args.length pre rest) (hs : Sorted sig) (p : Param)
    (hp : p ∈ rest) (hpos : isPos p = true) : args.length = pre.length := by
  rcases hsp.stop with h | h
  · exact h.symm
  · obtain ⟨q, qs, rfl⟩ := List.exists_cons_of_ne_nil (List.ne_nil_of_mem hp)
    have hq : isPos q = false := h q rfl
    rcases List.mem_cons.mp hp with rfl | hp'
    · simp [hpos] at hq
    · simp [isPos_before (split_sorted hsp hs) hp' (Or.inl hpos)] at hq

theorem entry_rest (hsp : Split sig args.length pre rest) (hwf : WF sig) (p : Param) (hp : p ∈ rest) :
    lookup (boundArgs pre rest args kw) p.name =
      match p.kind with
      | .vp => lookup (vpEntry rest (args.drop pre.length)) p.name
      | .vk => if (kwLeft kw pre rest).isEmpty then none else some (.dict (kwLeft kw pre rest))
      | _ => (kwGet kw p.name).map .one := by
  obtain ⟨_, h2, h3⟩ := split_nodup hsp hwf.names
  -- each of the four segments of `boundArgs` holds entries for its own parameters only
  have same : ∀ q ∈ rest, q.name = p.name → q = p := fun q hq h => List.eq_of_map_nodup h2 hq hp h
  have e1 : lookup (posEntries args kw 0 pre) p.name = none := by
    apply lookup_none_of_not_mem
    rw [posEntries_keys]
    intro hm
    obtain ⟨q, hq, hqn⟩ := List.mem_map.mp hm
    exact h3 q hq p hp hqn
  have e2 : p.kind ≠ .vp → lookup (vpEntry rest (args.drop pre.length)) p.name = none := fun hk =>
    vpEntry_lookup_none _ _ _ fun q hq hq' hqn => hk (same q hq hqn ▸ hq')
  have e3 := kwEntries_lookup rest (eraseNames kw pre) h2 p hp
  rw [kwGet_eraseNames_ne kw pre p.name (fun q hq => h3 q hq p hp)] at e3
  have e4 : p.kind ≠ .vk → ∀ d, lookup (vkEntry (lastVk rest none) d) p.name = none := fun hk d =>
    vkEntry_lookup_none _ _ _ fun q hq hqn => by
      rcases lastVk_mem rest none q hq with h | ⟨hm, hk'⟩
      · cases h
      · exact hk (same q hm hqn ▸ hk')
  simp only [boundArgs, lookup_append, e1, e3]
  by_cases hvp : p.kind = .vp
  · simp [named, hvp, e4]
  by_cases hk : p.kind = .vk
  · have hn : named p = false := by simp [named, hk]
    rw [e2 hvp, lastVk_sorted rest none p (split_sorted hsp hwf.order) hp hk]
    simp only [hn, hk, vkEntry, Bool.false_eq_true, ↓reduceIte]
    split <;> simp [lookup]
  · simp [named, hvp, hk, e2, e4]

theorem consumed_cons (p : Param) (ps : List Param) (n : Name) :
    consumed (p :: ps) n = ((p.name == n && (p.kind == .pk || p.kind == .ko)) || consumed ps n) := rfl

theorem consumed_append (a b : List Param) (n : Name) : consumed (a ++ b) n = (consumed a n || consumed b n) :=
  List.any_append

theorem consumed_pos (pre : List Param) (hpos : ∀ p ∈ pre, isPos p = true) (n : Name) :
    consumed pre n = pre.any fun p => p.kind == .pk && p.name == n := by
  induction pre with
  | nil => rfl
  | cons p ps ih =>
    rw [consumed_cons, List.any_cons, ih fun q hq => hpos q (List.mem_cons_of_mem _ hq)]
    rcases (isPos_iff p).mp (hpos p List.mem_cons_self) with h | h
    · rw [h]; cases p.name == n <;> rfl
    · rw [h]; cases p.name == n <;> rfl

theorem any_named (ps : List Param) (n : Name) :
    (ps.any fun p => named p && p.name == n) =
      (consumed ps n || ps.any fun q => q.kind == .po && q.name == n) := by
  induction ps with
  | nil => rfl
  | cons p ps ih =>
    have : (named p && p.name == n) =
        ((p.name == n && (p.kind == .pk || p.kind == .ko)) || (p.kind == .po && p.name == n)) := by
      unfold named; cases p.kind <;> cases p.name == n <;> rfl
    rw [consumed_cons, List.any_cons, List.any_cons, ih, this, Bool.or_assoc, Bool.or_assoc,
      Bool.or_left_comm (consumed ps n)]

/-- a keyword named `n` is popped for a positional-only parameter that no positional argument reaches -/
def moved (sig : List Param) (args : List Val) (n : Name) : Bool :=
  (sig.drop args.length).any fun q => q.kind == .po && q.name == n

/-- the keywords that reach `**kwargs`, on the signature -/
def leftover (sig : List Param) (args : List Val) (kw : KW) : KW :=
  kw.filter fun e => !(consumed sig e.1 || moved sig args e.1)

theorem kwGet_leftover (sig : List Param) (args : List Val) (kw : KW) (n : Name) :
    kwGet (leftover sig args kw) n = if consumed sig n || moved sig args n then none else kwGet kw n := by
  rw [leftover, kwGet_filter kw fun n => !(consumed sig n || moved sig args n)]
  cases consumed sig n || moved sig args n <;> rfl

theorem consumed_iff {n : Name} :
    consumed sig n = true ↔ ∃ q ∈ sig, q.name = n ∧ (q.kind = .pk ∨ q.kind = .ko) := by
  simp only [consumed, List.any_eq_true, Bool.and_eq_true, Bool.or_eq_true, beq_iff_eq]

theorem moved_iff {n : Name} :
    moved sig args n = true ↔ ∃ q ∈ sig.drop args.length, q.kind = .po ∧ q.name = n := by
  simp only [moved, List.any_eq_true, Bool.and_eq_true, beq_iff_eq]

theorem mem_drop_po (hsp : Split sig args.length pre rest) (hs : Sorted sig) (q : Param) (hk : q.kind = .po) :
    q ∈ sig.drop args.length ↔ q ∈ rest := by
  constructor
  · intro h
    rw [hsp.eq, List.drop_append] at h
    rcases List.mem_append.mp h with h | h
    · rw [List.drop_eq_nil_of_le hsp.len] at h; cases h
    · exact List.mem_of_mem_drop h
  · intro h
    rw [hsp.eq, rest_pos_exhausted hsp hs q h ((isPos_iff q).mpr (Or.inl hk)), List.drop_left]
    exact h

theorem kwLeft_eq (hsp : Split sig args.length pre rest) (hs : Sorted sig) :
    kwLeft kw pre rest = leftover sig args kw := by
  rw [kwLeft, eraseNames_eq_filter, List.filter_filter, leftover]
  apply List.filter_congr
  intro e _
  have : moved sig args e.1 = rest.any fun q => q.kind == .po && q.name == e.1 := by
    rw [moved, Bool.eq_iff_iff, List.any_eq_true, List.any_eq_true]
    refine exists_congr fun q => and_congr_left fun h => ?_
    exact mem_drop_po hsp hs q (eq_of_beq (Bool.and_eq_true_iff.mp h).1)
  rw [this, any_named, hsp.eq, consumed_append, consumed_pos pre hsp.pos]
  generalize consumed rest e.1 = a
  generalize (rest.any fun q => q.kind == .po && q.name == e.1) = b
  generalize (pre.any fun p => p.kind == .pk && p.name == e.1) = c
  cases a <;> cases b <;> cases c <;> rfl

/-- what `bind_expected` stores for `p`, the `i`-th parameter (`none`: no entry). The second loop does not look at
kinds: a positional-only parameter that no positional argument reaches takes the same-named keyword. -/
def bound (sig : List Param) (args : List Val) (kw : KW) (i : Nat) (p : Param) : Option ArgVal :=
  match p.kind with
  | .po => (args[i]?.or (kwGet kw p.name)).map .one
  | .pk => ((kwGet kw p.name).or args[i]?).map .one
  | .vp => if args.drop i = [] then none else some (.tuple (args.drop i))
  | .ko => (kwGet kw p.name).map .one
  | .vk => if (leftover sig args kw).isEmpty then none else some (.dict (leftover sig args kw))

theorem bind_lookup (hwf : WF sig) {A : Arguments}
    (h : bindExpected true sig args kw = some A) {i : Nat} {p : Param} (hi : sig[i]? = some p) :
    lookup A p.name = bound sig args kw i p := by
  have hs := hwf.order
  obtain ⟨pre, rest, hsp⟩ := exists_split sig args.length
  rw [bind_closed sig args kw pre rest hsp hwf.names] at h
  split at h
  · cases h
  cases h
  by_cases hip : i < pre.length
  · have hp : pre[i]? = some p := by rw [hsp.eq, List.getElem?_append_left hip] at hi; exact hi
    have hpos := hsp.pos p (List.mem_of_getElem? hp)
    have hil : i < args.length := Nat.lt_of_lt_of_le hip hsp.len
    have ha : args[i]? = some args[i] := List.getElem?_eq_getElem hil
    have := posEntries_lookup args kw 0 pre (split_nodup hsp hwf.names).1 i p hp
    simp only [boundArgs, List.append_assoc, lookup_append, this, Nat.zero_add]
    rcases (isPos_iff p).mp hpos with hk | hk
    · simp [bound, hk, posEntry, ha]
    · cases hg : kwGet kw p.name <;> simp [bound, hk, posEntry, ha, hg]
  · have hge : pre.length ≤ i := Nat.le_of_not_lt hip
    have hp : rest[i - pre.length]? = some p := by
      rw [hsp.eq, List.getElem?_append_right hge] at hi; exact hi
    have hm := List.mem_of_getElem? hp
    have hex : isPos p = true → args[i]? = none := fun hpos =>
      List.getElem?_eq_none (rest_pos_exhausted hsp hs p hm hpos ▸ hge)
    rw [entry_rest hsp hwf p hm]
    cases hk : p.kind
    case po => simp [bound, hk, hex ((isPos_iff p).mpr (Or.inl hk))]
    case pk => simp [bound, hk, hex ((isPos_iff p).mpr (Or.inr hk))]
    case ko => simp [bound, hk]
    case vk => simp only [bound, hk, kwLeft_eq hsp hs]
    case vp =>
      simp only [bound, hk]
      cases hr : rest with
      | nil => simp [hr] at hm
      | cons q qs =>
        rw [hr] at hp
        cases hj : i - pre.length with
        | zero =>
          -- `*args` is where the first loop stops
          obtain rfl : q = p := by rw [hj] at hp; exact Option.some.inj hp
          obtain rfl : i = pre.length := Nat.le_antisymm (Nat.sub_eq_zero_iff_le.mp hj) hge
          cases args.drop pre.length <;> simp [vpEntry, lookup, hk]
        | succ j =>
          -- a positional parameter before `*args` is not reached
          have hq : p ∈ qs := by rw [hj] at hp; exact List.mem_of_getElem? hp
          have := rest_pos_exhausted hsp hs q (hr ▸ List.mem_cons_self)
            (isPos_before (hr ▸ split_sorted hsp hs) hq (Or.inr hk))
          simp [vpEntry, lookup, List.drop_eq_nil_iff.mpr (Nat.le_of_eq this), this ▸ hge]

theorem entry_reached (hwf : WF sig) {A : Arguments} (h : bindExpected true sig args kw = some A) {i : Nat}
    {p : Param} (hi : sig[i]? = some p) (hlt : i < args.length) (hpos : isPos p = true) :
    lookup A p.name ≠ none := by
  have ha : args[i]? = some args[i] := List.getElem?_eq_getElem hlt
  rw [bind_lookup hwf h hi]
  rcases (isPos_iff p).mp hpos with hk | hk <;> simp [bound, hk, ha]

theorem entry_unreached (hwf : WF sig) {A : Arguments} (h : bindExpected true sig args kw = some A) {i : Nat}
    {p : Param} (hi : sig[i]? = some p) (hle : args.length ≤ i) :
    lookup A p.name =
      match p.kind with
      | .vp => none
      | .vk => if (leftover sig args kw).isEmpty then none else some (.dict (leftover sig args kw))
      | _ => (kwGet kw p.name).map .one := by
  rw [bind_lookup hwf h hi]
  cases hk : p.kind <;> simp [bound, hk, hle]

theorem blocked_iff (rest : List Param) (as : List Val) (kw : KW) :
    blocked rest as kw = true ↔
      as = [] ∧ ∃ q, rest.head? = some q ∧ q.kind = .po ∧ (kwGet kw q.name).isSome = true := by
  cases rest <;> cases as <;> simp [blocked]

theorem bind_none_iff (hwf : WF sig) :
    bindExpected true sig args kw = none ↔
      ∃ q, sig[args.length]? = some q ∧ q.kind = .po ∧ (kwGet kw q.name).isSome = true := by
  obtain ⟨pre, rest, hsp⟩ := exists_split sig args.length
  obtain ⟨_, _, h3⟩ := split_nodup hsp hwf.names
  have hget : ∀ q ∈ rest, kwGet (eraseNames kw pre) q.name = kwGet kw q.name := fun q hq =>
    kwGet_eraseNames_ne kw pre q.name (fun x hx => h3 x hx q hq)
  have hhead : rest.head? = sig[pre.length]? := by
    rw [hsp.eq, List.getElem?_append_right (Nat.le_refl _), Nat.sub_self, List.head?_eq_getElem?]
  have : ∀ (b : Bool) (x : Arguments), (if b then none else some x) = none ↔ b = true := by
    intro b x; cases b <;> simp
  rw [bind_closed sig args kw pre rest hsp hwf.names, this, blocked_iff]
  -- either way the positional arguments are used up, and the parameter in question is the head of `rest`
  constructor
  · rintro ⟨has, q, hq, hk, hn⟩
    have hlen : args.length = pre.length := Nat.le_antisymm (List.drop_eq_nil_iff.mp has) hsp.len
    exact ⟨q, by rw [hlen, ← hhead, hq], hk, hget q (List.mem_of_mem_head? hq) ▸ hn⟩
  · rintro ⟨q, hq, hk, hn⟩
    have hm : q ∈ rest := by
      rw [hsp.eq, List.getElem?_append_right hsp.len] at hq; exact List.mem_of_getElem? hq
    have hlen := rest_pos_exhausted hsp hwf.order q hm ((isPos_iff q).mpr (Or.inl hk))
    exact ⟨List.drop_eq_nil_iff.mpr (Nat.le_of_eq hlen), q, by rw [hhead, ← hlen, hq], hk, (hget q hm).symm ▸ hn⟩

end entries
end SMV.Bind
