import SMV.Model.Clone
import SMV.Lemmas.ListAux
/-!
# Lemmas about name resolution `SMV.Prov.attach` and the registries built with it

`attach ex ps ns` is `addKey` folded over the items the providers offer under the names
(`attach_eq`, `mem_offered`). What C12 and C17 say about `attach` follows from facts about folding
`addKey` — the same facts, under the same names, as `Lemmas/Registry.lean` has about `Reg.add`. For
providers with distinct ids they determine the items exactly (`mem_attach_iff`), which is what
compares the registry of `Model/Clone.lean` built in one pass with the one built pass by pass
(`late_items_iff`).
-/
namespace SMV.Prov

theorem hasKey_iff (ex : List Item) (n : Name) (p : ProvId) :
    hasKey ex n p = true ↔ ∃ x ∈ ex, x.name = n ∧ x.prov = p := by
  simp only [hasKey, List.any_eq_true, Bool.and_eq_true, beq_iff_eq]

theorem addKey_of_hasKey (ex : List Item) (it : Item) (h : hasKey ex it.name it.prov = true) :
    addKey ex it = ex := by
  simp [addKey, h]

theorem mem_addKey (ex : List Item) (it x : Item) (h : x ∈ addKey ex it) : x ∈ ex ∨ x = it := by
  unfold addKey at h
  split at h
  · exact .inl h
  · exact (List.mem_append.mp h).imp_right List.mem_singleton.mp

theorem mem_addKey_mono (ex : List Item) (it x : Item) (h : x ∈ ex) : x ∈ addKey ex it := by
  unfold addKey
  split
  · exact h
  · exact List.mem_append_left _ h

theorem hasKey_addKey (ex : List Item) (it : Item) (n : Name) (p : ProvId) :
    hasKey (addKey ex it) n p = true ↔ hasKey ex n p = true ∨ (it.name = n ∧ it.prov = p) := by
  unfold addKey
  split
  · exact ⟨.inl, fun h => h.elim id fun h => h.1 ▸ h.2 ▸ ‹_›⟩
  · simp only [hasKey_iff, List.mem_append, List.mem_singleton, or_and_right, exists_or, exists_eq_left]

/-- no (name, provider) key occurs twice -/
def KeysNodup (ex : List Item) : Prop := (ex.map fun x => (x.name, x.prov)).Nodup

theorem addKey_keys_nodup (ex : List Item) (it : Item) (h : KeysNodup ex) : KeysNodup (addKey ex it) := by
  unfold addKey
  split
  · exact h
  · rename_i hk
    rw [KeysNodup, List.map_append, List.nodup_append]
    refine ⟨h, List.pairwise_singleton .., fun a ha b hb e => hk ?_⟩
    obtain ⟨x, hx, rfl⟩ := List.mem_map.mp ha
    obtain rfl := List.mem_singleton.mp hb
    exact (hasKey_iff ..).mpr ⟨x, hx, Prod.mk.inj e⟩

theorem mem_foldl_addKey (its ex : List Item) (x : Item) (h : x ∈ its.foldl addKey ex) : x ∈ ex ∨ x ∈ its :=
  List.foldlRecOn (motive := fun acc => x ∈ acc → x ∈ ex ∨ x ∈ its) its addKey .inl
    (fun acc ih it hit h => (mem_addKey acc it x h).elim ih fun h => .inr (h ▸ hit)) h

theorem mem_foldl_addKey_mono (its ex : List Item) (x : Item) (h : x ∈ ex) : x ∈ its.foldl addKey ex :=
  List.foldlRecOn its addKey h fun acc ih it _ => mem_addKey_mono acc it x ih

theorem hasKey_foldl_addKey (its ex : List Item) (n : Name) (p : ProvId) :
    hasKey (its.foldl addKey ex) n p = true ↔ hasKey ex n p = true ∨ ∃ x ∈ its, x.name = n ∧ x.prov = p := by
  induction its generalizing ex with
  | nil => simp
  | cons it its ih => simp only [List.foldl_cons, ih, hasKey_addKey, List.mem_cons, exists_eq_or_imp, or_assoc]

theorem foldl_addKey_saturated (its ex : List Item) (h : ∀ x ∈ its, hasKey ex x.name x.prov = true) :
    its.foldl addKey ex = ex :=
  List.foldlRecOn (motive := (· = ex)) its addKey rfl fun acc (ih : acc = ex) it hit => by
    rw [ih, addKey_of_hasKey ex it (h it hit)]

/-- what `attach` folds `addKey` over (`attach_eq`): per name, the items the providers offer under it, in provider order -/
def offered (ps : List Provider) (ns : List Name) : List Item :=
  ns.flatMap fun n => ps.filterMap fun p => (offers p n).map fun cb => { name := n, prov := p.id, cb := cb }

theorem resolveName_eq (ex : List Item) (n : Name) (ps : List Provider) :
    resolveName ex n ps =
      (ps.filterMap fun p => (offers p n).map fun cb => { name := n, prov := p.id, cb := cb }).foldl addKey ex := by
  induction ps generalizing ex with
  | nil => rfl
  | cons p ps ih =>
    unfold resolveName
    cases h : offers p n <;> simp [h, ih]

theorem attach_eq (ex : List Item) (ps : List Provider) (ns : List Name) :
    attach ex ps ns = (offered ps ns).foldl addKey ex := by
  rw [offered, List.foldl_flatMap]
  induction ns generalizing ex with
  | nil => rfl
  | cons n ns ih => rw [attach, ih, List.foldl_cons, resolveName_eq]

theorem mem_offered (ps : List Provider) (ns : List Name) (it : Item) :
    it ∈ offered ps ns ↔ ∃ p ∈ ps, it.name ∈ ns ∧ it.prov = p.id ∧ offers p it.name = some it.cb := by
  simp only [offered, List.mem_flatMap, List.mem_filterMap, Option.map_eq_some_iff]
  constructor
  · rintro ⟨n, hn, p, hp, cb, ho, rfl⟩
    exact ⟨p, hp, hn, rfl, ho⟩
  · rintro ⟨p, hp, hn, hi, ho⟩
    exact ⟨_, hn, p, hp, _, ho, by rw [← hi]⟩

theorem attach_saturates (ex : List Item) (ps : List Provider) (ns : List Name) (n : Name) (hn : n ∈ ns)
    (p : Provider) (hp : p ∈ ps) (cb : CbId) (ho : offers p n = some cb) :
    hasKey (attach ex ps ns) n p.id = true := by
  rw [attach_eq, hasKey_foldl_addKey]
  exact .inr ⟨⟨n, p.id, cb⟩, (mem_offered ..).mpr ⟨p, hp, hn, rfl, ho⟩, rfl, rfl⟩

theorem attach_saturated (ex : List Item) (ps : List Provider) (ns : List Name)
    (h : ∀ n ∈ ns, ∀ p ∈ ps, ∀ cb, offers p n = some cb → hasKey ex n p.id = true) :
    attach ex ps ns = ex := by
  rw [attach_eq]
  refine foldl_addKey_saturated _ _ fun x hx => ?_
  obtain ⟨p, hp, hn, hi, ho⟩ := (mem_offered ..).mp hx
  exact hi ▸ h _ hn p hp _ ho

theorem mem_attach (ex : List Item) (ps : List Provider) (ns : List Name) (it : Item) (h : it ∈ attach ex ps ns) :
    it ∈ ex ∨ ∃ p ∈ ps, it.name ∈ ns ∧ it.prov = p.id ∧ offers p it.name = some it.cb := by
  rw [attach_eq] at h
  exact (mem_foldl_addKey _ ex it h).imp_right (mem_offered ..).mp

theorem mem_attach_mono (ex : List Item) (ps : List Provider) (ns : List Name) (it : Item) (h : it ∈ ex) :
    it ∈ attach ex ps ns :=
  attach_eq .. ▸ mem_foldl_addKey_mono _ ex it h

/-- **Membership in an executor**, for providers with distinct ids none of which already has an
item in `ex`: the items afterwards are the old ones plus exactly one item (name, provider, the
callback that provider offers under that name) per listed name and offering provider. -/
theorem mem_attach_iff (ex : List Item) (ps : List Provider) (ns : List Name) (it : Item)
    (hnd : (ps.map (·.id)).Nodup) (hdisj : ∀ x ∈ ex, ∀ p ∈ ps, x.prov ≠ p.id) :
    it ∈ attach ex ps ns ↔
      it ∈ ex ∨ ∃ p ∈ ps, it.name ∈ ns ∧ it.prov = p.id ∧ offers p it.name = some it.cb := by
  refine ⟨mem_attach ex ps ns it, ?_⟩
  rintro (h | ⟨p, hp, hn, e1, e2⟩)
  · exact mem_attach_mono ex ps ns it h
  · -- the key of `it` is there; the item `x` that carries it is offered by the same provider: it is `it`
    obtain ⟨x, hx, hxn, hxp⟩ := (hasKey_iff _ it.name it.prov).mp
      (e1 ▸ attach_saturates ex ps ns it.name hn p hp it.cb e2)
    rcases mem_attach ex ps ns x hx with h1 | ⟨q, hq, -, f1, f2⟩
    · exact absurd (hxp.trans e1) (hdisj x h1 p hp)
    · obtain rfl : q = p := List.eq_of_map_nodup hnd hq hp (by rw [← f1, hxp, e1])
      rw [hxn, e2] at f2
      obtain rfl : x = it := by cases x; cases it; cases hxn; cases hxp; cases f2; rfl
      exact hx

theorem checkNames_mono (ex ex' : List Item) (required : List Name) (hsub : ∀ it ∈ ex, it ∈ ex')
    (h : checkNames ex required = true) : checkNames ex' required = true := by
  simp only [checkNames, List.all_eq_true, List.any_eq_true] at *
  intro n hn
  obtain ⟨it, hit, e⟩ := h n hn
  exact ⟨it, hsub it hit, e⟩

theorem hasAsync_iff (isCoro : CbId → Bool) (ex : List Item) :
    hasAsync isCoro ex = true ↔ ∃ it ∈ ex, isCoro it.cb = true := by
  simp only [hasAsync, List.any_eq_true]

theorem registerAll_ok (isCoro : CbId → Bool) (ps : List Provider) (names required : List Name) (r : Reg)
    (h : registerAll isCoro ps names required = .ok r) :
    r.items = attach [] ps names ∧ checkNames (attach [] ps names) required = true ∧
    r.kind = (if hasAsync isCoro (attach [] ps names) then .async else .sync) := by
  by_cases hc : checkNames (attach [] ps names) required = true
  · cases (if_pos hc).symm.trans h
    exact ⟨rfl, hc, rfl⟩
  · cases (if_neg hc).symm.trans h

/-- one pass over all providers and the late pass after the constructor's hold the same items (the order may differ) -/
theorem late_items_iff (mm ctor late : List Provider) (names : List Name)
    (hnd : ((mm ++ ctor ++ late).map (·.id)).Nodup) (it : Item) :
    it ∈ attach [] (mm ++ (ctor ++ late)) names ↔
      it ∈ attach (attach [] (mm ++ ctor) names) late names := by
  rw [← List.append_assoc]
  have hnd' := hnd
  rw [List.map_append, List.nodup_append] at hnd'
  obtain ⟨hnd1, hnd2, hcross⟩ := hnd'
  have hdisj : ∀ x ∈ attach [] (mm ++ ctor) names, ∀ p ∈ late, x.prov ≠ p.id := by
    intro x hx p hp e
    obtain ⟨q, hq, _, f1, _⟩ := (mem_attach [] _ _ x hx).resolve_left List.not_mem_nil
    exact hcross q.id (List.mem_map.mpr ⟨q, hq, rfl⟩) p.id (List.mem_map.mpr ⟨p, hp, rfl⟩) (by rw [← f1, e])
  rw [mem_attach_iff [] _ names it hnd (by intro x hx; cases hx),
    mem_attach_iff _ late names it hnd2 hdisj,
    mem_attach_iff [] _ names it hnd1 (by intro x hx; cases hx)]
  simp only [List.not_mem_nil, false_or, List.mem_append (t := late), or_and_right, exists_or]

end SMV.Prov
