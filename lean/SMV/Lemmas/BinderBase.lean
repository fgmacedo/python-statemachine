import SMV.Model.Binder
/-!
# Binder (C07): what the proofs about `bind_expected` and about the call protocol share

Association lists (`kwErase` is a filter and `kwGet` commutes with a filter on keys; the erase equations follow),
Python's parameter order, the vocabulary of the property, frames built by `collect`.
-/
namespace SMV.Bind

theorem kwGet_append (a b : KW) (n : Name) :
    kwGet (a ++ b) n = (kwGet a n).orElse (fun _ => kwGet b n) := by
  induction a with
  | nil => simp [kwGet]
  | cons e rest ih =>
    obtain ⟨k, v⟩ := e
    by_cases hk : k = n <;> simp [kwGet, hk, ih]

theorem kwErase_eq_filter (kw : KW) (n : Name) : kwErase kw n = kw.filter (fun e => e.1 != n) := by
  induction kw with
  | nil => rfl
  | cons e rest ih =>
    obtain ⟨k, v⟩ := e
    simp only [kwErase, List.filter_cons]
    by_cases h : k = n <;> simp [h, ih]

theorem kwErase_append (a b : KW) (n : Name) : kwErase (a ++ b) n = kwErase a n ++ kwErase b n := by
  simp only [kwErase_eq_filter, List.filter_append]

theorem kwErase_filter (kw : KW) (m : Name) (Q : Name → Bool) :
    (kwErase kw m).filter (fun e => !Q e.1) = kw.filter (fun e => !(m == e.1 || Q e.1)) := by
  rw [kwErase_eq_filter, List.filter_filter]
  apply List.filter_congr
  intro e _
  rw [Bool.not_or, Bool.and_comm, bne, Bool.beq_comm]

theorem kwGet_filter (kw : KW) (P : Name → Bool) (n : Name) :
    kwGet (kw.filter fun e => P e.1) n = if P n then kwGet kw n else none := by
  induction kw with
  | nil => simp [kwGet]
  | cons e rest ih =>
    obtain ⟨k, v⟩ := e
    simp only [List.filter_cons]
    by_cases hk : k = n
    · subst hk; cases hP : P k <;> simp [kwGet, ih, hP]
    · cases hP : P k <;> simp [kwGet, hk, ih]

theorem kwGet_none_iff (kw : KW) (n : Name) : kwGet kw n = none ↔ n ∉ keys kw := by
  induction kw with
  | nil => simp [kwGet, keys]
  | cons e rest ih =>
    obtain ⟨k, v⟩ := e
    rw [show keys ((k, v) :: rest) = k :: keys rest from rfl, List.mem_cons, not_or, kwGet]
    by_cases hk : k = n
    · simp [hk]
    · rw [if_neg hk, ih]
      exact ⟨fun h => ⟨fun hn => hk hn.symm, h⟩, fun h => h.2⟩

theorem kwGet_erase_ne (kw : KW) (m n : Name) (h : n ≠ m) : kwGet (kwErase kw m) n = kwGet kw n := by
  rw [kwErase_eq_filter, kwGet_filter kw (· != m), if_pos (bne_iff_ne.mpr h)]

theorem kwGet_erase_self (kw : KW) (n : Name) : kwGet (kwErase kw n) n = none := by
  rw [kwErase_eq_filter, kwGet_filter kw (· != n), if_neg (by simp)]

theorem kwErase_absent (kw : KW) (m : Name) (h : kwGet kw m = none) : kwErase kw m = kw := by
  rw [kwErase_eq_filter, List.filter_eq_self]
  intro e he
  exact bne_iff_ne.mpr fun hm => (kwGet_none_iff kw m).mp h (hm ▸ List.mem_map_of_mem he)

theorem kwGet_isSome_of_mem (kw : KW) (k : Name) (v : Val) (h : (k, v) ∈ kw) : (kwGet kw k).isSome := by
  rw [Option.isSome_iff_ne_none, Ne, kwGet_none_iff]
  exact fun hn => hn (List.mem_map.mpr ⟨(k, v), h, rfl⟩)

theorem kwGet_kwSet_self (kw : KW) (n : Name) (v : Val) : kwGet (kwSet kw n v) n = some v := by
  induction kw with
  | nil => simp [kwSet, kwGet]
  | cons e rest ih =>
    obtain ⟨k, w⟩ := e
    by_cases hk : k = n <;> simp [kwSet, kwGet, hk, ih]

theorem kwGet_kwSet_ne (kw : KW) (n m : Name) (v : Val) (h : m ≠ n) :
    kwGet (kwSet kw n v) m = kwGet kw m := by
  induction kw with
  | nil => simp [kwSet, kwGet, Ne.symm h]
  | cons e rest ih =>
    obtain ⟨k, w⟩ := e
    by_cases hk : k = n
    · simp [kwSet, kwGet, hk, Ne.symm h]
    · simp [kwSet, kwGet, hk, ih]

theorem kwGet_layer (rs : List Name) (tk : KW) (b : Name → Val) (n : Name) :
    kwGet (rs.foldl (fun kw r => kwSet kw r (b r)) tk) n = if n ∈ rs then some (b n) else kwGet tk n := by
  induction rs generalizing tk with
  | nil => simp
  | cons r rs ih =>
    simp only [List.foldl_cons, ih, List.mem_cons]
    by_cases h1 : n ∈ rs
    · simp [h1]
    · by_cases h2 : n = r
      · subst h2; simp [h1, kwGet_kwSet_self]
      · simp [h1, h2, kwGet_kwSet_ne _ _ _ _ h2]

theorem lookup_append (a b : Arguments) (n : Name) :
    lookup (a ++ b) n = (lookup a n).orElse (fun _ => lookup b n) := by
  induction a with
  | nil => simp [lookup]
  | cons e rest ih =>
    obtain ⟨k, v⟩ := e
    by_cases hk : k = n <;> simp [lookup, hk, ih]

theorem lookup_none_of_not_mem (a : Arguments) (n : Name) (h : n ∉ a.map (·.1)) : lookup a n = none := by
  induction a with
  | nil => rfl
  | cons e rest ih =>
    obtain ⟨k, v⟩ := e
    simp only [List.map_cons, List.mem_cons, not_or] at h
    simp only [lookup]
    rw [if_neg (fun hk => h.1 hk.symm)]
    exact ih h.2

theorem lookup_of_mem {A : Arguments} (hnd : (A.map (·.1)).Nodup) {n : Name} {v : ArgVal} (h : (n, v) ∈ A) :
    lookup A n = some v := by
  induction A with
  | nil => cases h
  | cons e rest ih =>
    obtain ⟨k, w⟩ := e
    simp only [List.map_cons, List.nodup_cons] at hnd
    rcases List.mem_cons.mp h with h | h
    · cases h; simp [lookup]
    · have : k ≠ n := fun hk => hnd.1 (hk ▸ List.mem_map.mpr ⟨(n, v), h, rfl⟩)
      simp [lookup, this, ih hnd.2 h]

def isPos (p : Param) : Bool := p.kind = .po || p.kind = .pk

/-- what the second loop of `bind_expected` fills by name: positional-only parameters included -/
def named (p : Param) : Bool := p.kind != .vp && p.kind != .vk

theorem isPos_iff (p : Param) : isPos p = true ↔ p.kind = .po ∨ p.kind = .pk := by
  simp [isPos]

theorem named_iff (p : Param) : named p = true ↔ p.kind = .po ∨ p.kind = .pk ∨ p.kind = .ko := by
  unfold named
  cases p.kind <;> simp

theorem named_of_isPos {p : Param} (h : isPos p = true) : named p = true :=
  (named_iff p).mpr (((isPos_iff p).mp h).imp_right Or.inl)

/-- kinds in the order of a `def` header -/
def Sorted (ps : List Param) : Prop := ps.Pairwise (fun p q => kindOk p.kind q.kind = true)

theorem kindOk_order {a b : Kind} (h : kindOk a b = true) :
    (b = .po → a = .po) ∧ (b = .pk ∨ b = .vp → a = .po ∨ a = .pk) ∧ (a = .vp ∨ a = .ko → b = .ko ∨ b = .vk) ∧
      a ≠ .vk := by
  cases a <;> cases b <;> simp [kindOk] at h ⊢

theorem sorted_vk_last {p : Param} {ps : List Param} (hs : Sorted (p :: ps)) (hk : p.kind = .vk) : ps = [] := by
  cases ps with
  | nil => rfl
  | cons q qs => exact absurd hk (kindOk_order ((List.pairwise_cons.mp hs).1 q List.mem_cons_self)).2.2.2

theorem isPos_before {p q : Param} {ps : List Param} (hs : Sorted (p :: ps)) (hq : q ∈ ps)
    (h : isPos q = true ∨ q.kind = .vp) : isPos p = true := by
  have := kindOk_order ((List.pairwise_cons.mp hs).1 q hq)
  rw [isPos_iff] at h ⊢
  rcases h with (hk | hk) | hk
  · exact Or.inl (this.1 hk)
  · exact this.2.1 (Or.inl hk)
  · exact this.2.1 (Or.inr hk)

theorem sorted_po_before {sig : List Param} (hs : Sorted sig) {i j : Nat} {p q : Param} (hij : i ≤ j)
    (hp : sig[i]? = some p) (hq : sig[j]? = some q) (hk : q.kind = .po) : p.kind = .po := by
  rcases Nat.lt_or_eq_of_le hij with h | rfl
  · obtain ⟨hi, rfl⟩ := List.getElem?_eq_some_iff.mp hp
    obtain ⟨hj, rfl⟩ := List.getElem?_eq_some_iff.mp hq
    exact (kindOk_order (List.pairwise_iff_getElem.mp hs i j hi hj h)).1 hk
  · rw [hp] at hq; cases hq; exact hk

theorem name_ne_head {p : Param} {ps : List Param} (h : ((p :: ps).map (·.name)).Nodup) :
    ∀ q ∈ ps, q.name ≠ p.name :=
  fun q hq hn => (List.nodup_cons.mp h).1 (List.mem_map.mpr ⟨q, hq, hn⟩)

/-- a signature Python accepts: distinct names, kinds in the order po* pk* vp? ko* vk? -/
structure WF (sig : List Param) : Prop where
  names : (sig.map (·.name)).Nodup
  order : Sorted sig

theorem WF.tail {p : Param} {ps : List Param} (h : WF (p :: ps)) : WF ps :=
  ⟨(List.nodup_cons.mp h.names).2, (List.pairwise_cons.mp h.order).2⟩

/-- `wfB` is the check the driver `drv_bind` runs on the signatures it is given -/
theorem wf_iff_wfB (sig : List Param) : WF sig ↔ wfB sig = true := by
  simp only [wfB, Bool.and_eq_true, decide_eq_true_eq, List.pairwise_map]
  exact ⟨fun h => ⟨h.names, h.order⟩, fun h => ⟨h.1, h.2⟩⟩

/-- a parameter without a default that the call supplies neither by position nor by keyword -/
def Unsupplied (sig : List Param) (args : List Val) (kw : KW) : Prop :=
  ∃ i p, sig[i]? = some p ∧ p.dflt = false ∧ named p = true ∧
    (p.kind = .po ∨ kwGet kw p.name = none) ∧ (p.kind = .ko ∨ args.length ≤ i)

/-- a keyword names a positional-only parameter that no positional argument reaches -/
def PosOnlyByKeyword (sig : List Param) (args : List Val) (kw : KW) : Prop :=
  ∃ j q, sig[j]? = some q ∧ q.kind = .po ∧ args.length ≤ j ∧ (kwGet kw q.name).isSome = true

theorem collect_some (l : List (Name × Option ArgVal)) (fr : Frame) (h : collect l = some fr) :
    l = fr.map (fun e => (e.1, some e.2)) := by
  induction l generalizing fr with
  | nil => cases h; rfl
  | cons e rest ih =>
    obtain ⟨n, o⟩ := e
    cases o with
    | none => cases h
    | some v =>
      rw [collect] at h
      cases hc : collect rest with
      | none => rw [hc] at h; cases h
      | some fr' =>
        rw [hc] at h
        cases h
        rw [List.map_cons, ← ih fr' hc]

theorem collect_lookup {l : List (Name × Option ArgVal)} {fr : Frame} (hnd : (l.map (·.1)).Nodup)
    (h : collect l = some fr) {n : Name} {o : Option ArgVal} (hm : (n, o) ∈ l) :
    ∃ v, o = some v ∧ lookup fr n = some v := by
  have hl := collect_some l fr h
  rw [hl] at hm hnd
  obtain ⟨e, he, heq⟩ := List.mem_map.mp hm
  cases heq
  rw [List.map_map] at hnd
  exact ⟨e.2, rfl, lookup_of_mem hnd he⟩

theorem collect_eq_none_iff (l : List (Name × Option ArgVal)) : collect l = none ↔ ∃ n, (n, none) ∈ l := by
  induction l with
  | nil => simp [collect]
  | cons e rest ih =>
    obtain ⟨n, o⟩ := e
    cases o with
    | none => simp [collect]
    | some v =>
      have : consO (n, v) (collect rest) = none ↔ collect rest = none := by cases collect rest <;> simp [consO]
      simp [collect, this, ih]

/-- one step of `collect` (no value: Python's `TypeError`) -/
def deliver (n : Name) (o : Option ArgVal) (r : Option Frame) : Option Frame :=
  match o with
  | some v => consO (n, v) r
  | none => none

theorem collect_cons (n : Name) (o : Option ArgVal) (l : List (Name × Option ArgVal)) :
    collect ((n, o) :: l) = deliver n o (collect l) := by
  cases o <;> rfl

theorem absent_eq (p : Param) (r : Option Frame) : absent p r = deliver p.name (dfltOr p) r := by
  unfold absent dfltOr
  split <;> rfl

theorem absent_none (p : Param) : absent p none = none := by
  unfold absent; split <;> rfl

theorem consO_ite (c : Prop) [Decidable c] (e : Name × ArgVal) (r : Option Frame) :
    consO e (if c then none else r) = if c then none else consO e r := by
  split <;> rfl

theorem absent_ite (c : Prop) [Decidable c] (p : Param) (r : Option Frame) :
    absent p (if c then none else r) = if c then none else absent p r := by
  split <;> simp [absent_none]

def prependO (es : Frame) : Option Frame → Option Frame
  | none => none
  | some f => some (es ++ f)

theorem consO_prependO (e : Name × ArgVal) (es : Frame) (o : Option Frame) :
    consO e (prependO es o) = prependO (e :: es) o := by
  cases o <;> rfl

theorem prependO_collect (ps : List Param) (g : Param → ArgVal) (l : List (Name × Option ArgVal)) :
    prependO (ps.map fun p => (p.name, g p)) (collect l) =
      collect (ps.map (fun p => (p.name, some (g p))) ++ l) := by
  induction ps with
  | nil => cases h : collect l <;> simp [prependO, h]
  | cons p ps ih => rw [List.map_cons, ← consO_prependO, ih]; rfl

theorem specFrom_getElem? (sig : List Param) (args : List Val) (kw : KW) (i : Nat) (ps : List Param) (j : Nat) :
    (specFrom sig args kw i ps)[j]? = ps[j]?.map fun p => (p.name, specParam sig args kw (i + j) p) := by
  induction ps generalizing i j with
  | nil => rfl
  | cons q qs ih =>
    cases j with
    | zero => rfl
    | succ j =>
      rw [specFrom, List.getElem?_cons_succ, List.getElem?_cons_succ, ih, Nat.add_right_comm, Nat.add_assoc]

theorem specFrom_keys (sig : List Param) (args : List Val) (kw : KW) (i : Nat) (ps : List Param) :
    (specFrom sig args kw i ps).map (·.1) = ps.map (·.name) := by
  induction ps generalizing i with
  | nil => rfl
  | cons q qs ih => simp [specFrom, ih]

theorem mem_specFrame {sig : List Param} {args : List Val} {kw : KW} {e : Name × Option ArgVal} :
    e ∈ specFrame sig args kw ↔ ∃ i p, sig[i]? = some p ∧ e = (p.name, specParam sig args kw i p) := by
  simp only [specFrame, List.mem_iff_getElem?, specFrom_getElem?, Nat.zero_add, Option.map_eq_some_iff,
    @eq_comm _ _ e]

end SMV.Bind
