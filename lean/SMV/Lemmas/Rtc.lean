import SMV.Lemmas.Resp
/-!
# Closed forms for run-to-completion mode

With the handler `nestedRtc` a callback invocation has an explicit effect (`runCb_rtc`), so results are determined
by the callbacks' behaviour (`Beh`, `runGroup_res`, `runConds_res`); the model field and the lock are untouched by
anything but `setState` (`Same`, an instance of `Lift`).
-/
namespace SMV

def mkTrigs : Nat → List EventId → List Trigger
  | _, [] => []
  | n, e :: es => { tid := n, event := e } :: mkTrigs (n + 1) es

/-- effect of the nested sends of one callback invocation in RTC mode -/
def rtcSends (x : Ctx) (ph : Phase) (cb : CbId) (es : List EventId) (c : Cfg) : Cfg :=
  { c with
    queue := c.queue ++ mkTrigs c.nextTid es
    log := c.log ++ es.map (fun _ => Entry.sendRet x.t.tid ph cb .none)
    nextTid := c.nextTid + es.length }

/-- in RTC mode every nested send returns `None` -/
def rtcLast (last : Option Res) : List EventId → Option Res
  | [] => last
  | _ :: _ => some .none

/-- what a callback invocation hands back in RTC mode: its own value; an event used as a callback: `None` -/
def rtcRet (m : Machine) (a : Act) : Val := retOf m a (rtcLast none a.sends)

theorem rtcRet_plain (m : Machine) (a : Act) (h : a.retSend = false) : rtcRet m a = a.ret := by
  simp [rtcRet, retOf, h]

theorem sendsLoop_rtc (x : Ctx) (ph : Phase) (cb : CbId) (es : List EventId) (last : Option Res) (c : Cfg) :
    sendsLoop nestedRtc x ph cb last es c = (rtcSends x ph cb es c, .ok (rtcLast last es)) := by
  induction es generalizing c last with
  | nil => simp [sendsLoop, rtcSends, mkTrigs, rtcLast]
  | cons e es ih =>
    have hl : rtcLast (some .none) es = rtcLast last (e :: es) := by cases es <;> rfl
    -- by computation the left side is the loop on `es` after the first send, where the counter is `c.nextTid + 1`
    refine (ih ..).trans ?_
    rw [hl]
    simp [rtcSends, mkTrigs, Nat.add_assoc, Nat.add_comm 1]

theorem runCb_rtc (m : Machine) (x : Ctx) (ph : Phase) (cb : CbId) (c : Cfg) :
    runCb nestedRtc m x ph cb c =
      let a := m.behav cb c.nextInv { tid := x.t.tid, state := c.cur, event := x.t.event }
      let c1 := rtcSends x ph cb a.sends
        { c with log := c.log ++ [.cbBegin x.t.tid ph cb c.cur x.t.event x.src x.tgt], nextInv := c.nextInv + 1 }
      match a.raises with
      | some e => (c1, .error (.user e))
      | none => ({ c1 with log := c1.log ++ [.cbEnd x.t.tid ph cb (rtcRet m a)] }, .ok (rtcRet m a)) := by
  simp only [runCb, EM.bind_apply, EM.get, EM.modify, sendsLoop_rtc]
  cases (m.behav cb c.nextInv { tid := x.t.tid, state := c.cur, event := x.t.event }).raises <;> rfl

/-- holds across every part of an activation but the assignment -/
structure Same (c c' : Cfg) : Prop where
  cur : c'.cur = c.cur
  locked : c'.locked = c.locked

theorem Same.lift : Lift Same (fun _ _ => True) (· = .none) nestedRtc :=
  .rtc (fun _ => ⟨rfl, rfl⟩) (fun _ _ _ h1 h2 => ⟨h2.cur.trans h1.cur, h2.locked.trans h1.locked⟩)
    (fun _ _ _ _ => ⟨rfl, rfl⟩) (fun _ _ => ⟨rfl, rfl⟩)

theorem entryOk_true (HR : Res → Prop) (x : Ctx) (ph : Phase) (cb : CbId) :
    EntryOk (fun _ _ => True) HR x ph cb := fun _ => ⟨trivial, fun _ _ => trivial, fun _ => trivial⟩

theorem runCb_same (m : Machine) (x : Ctx) (ph : Phase) (cb : CbId) : Resp Same (runCb nestedRtc m x ph cb) :=
  runCb_lift Same.lift m x ph cb (entryOk_true _ x ph cb)
theorem runConds_same (m : Machine) (x : Ctx) (cs : List (CbId × Bool)) :
    Resp Same (runConds nestedRtc m x cs) :=
  runConds_lift Same.lift m x cs fun p _ => entryOk_true _ x .cond p.1

def SameCur (c c' : Cfg) : Prop := c'.cur = c.cur

theorem runConds_sameCur (m : Machine) (x : Ctx) (cs : List (CbId × Bool)) :
    Resp SameCur (runConds nestedRtc m x cs) := fun c => (runConds_same m x cs c).cur

theorem activatePre_same (m : Machine) (t : Trigger) (tr : Transn) : Resp Same (activatePre nestedRtc m t tr) :=
  activatePre_lift Same.lift m t tr fun ph cb _ => entryOk_true _ _ ph cb

/-- once past the `on` group the model field holds the target's value, whatever happens next -/
theorem activatePost_cur (m : Machine) (t : Trigger) (tr : Transn) (c : Cfg) :
    (activatePost nestedRtc m t tr c).1.cur = some (stateVal m tr.target) :=
  (activatePost_after Same.lift m t tr (fun ph cb _ => entryOk_true _ _ ph cb) c).cur

theorem activate_cases (m : Machine) (t : Trigger) (tr : Transn) (c : Cfg) :
    ((activate nestedRtc m t tr c).1.cur = c.cur ∧ ∀ r, (activate nestedRtc m t tr c).2 ≠ .ok (some r)) ∨
    (activate nestedRtc m t tr c).1.cur = some (stateVal m tr.target) := by
  unfold activate
  rw [EM.bind_eq]
  split
  · split
    · exact .inl ⟨(activatePre_same m t tr c).cur, fun _ h => nomatch h⟩
    · rw [EM.bind_pure_fst]
      exact .inr (activatePost_cur m t tr _)
  · exact .inl ⟨(activatePre_same m t tr c).cur, fun _ h => nomatch h⟩

/-- whatever the outcome of an activation (rejected, raised in any group, executed), the field is either untouched or
holds the target's value -/
theorem activate_cur_any (m : Machine) (t : Trigger) (tr : Transn) (c : Cfg) :
    (activate nestedRtc m t tr c).1.cur = c.cur ∨
    (activate nestedRtc m t tr c).1.cur = some (stateVal m tr.target) :=
  (activate_cases m t tr c).imp And.left id

theorem activate_cur (m : Machine) (t : Trigger) (tr : Transn) (c : Cfg) (r : Res)
    (h : (activate nestedRtc m t tr c).2 = .ok (some r)) :
    (activate nestedRtc m t tr c).1.cur = some (stateVal m tr.target) :=
  (activate_cases m t tr c).resolve_left fun h' => h'.2 r h

/-- Whatever the candidate loop does (a result, no candidate executed, an exception from any group), the field is either
untouched, and then no result is returned, or holds the target's value of a candidate bound to the event: the engine
model's side of what `SMV.Store.send` abstracts an event to (C10). -/
theorem tryCands_cases (m : Machine) (t : Trigger) (trs : List Transn) (c : Cfg) :
    ((tryCands nestedRtc m t trs c).1.cur = c.cur ∧ ∀ r, (tryCands nestedRtc m t trs c).2 ≠ .ok (some r)) ∨
    ∃ tr ∈ trs, matchesEv tr t.event = true ∧
      (tryCands nestedRtc m t trs c).1.cur = some (stateVal m tr.target) := by
  induction trs generalizing c with
  | nil => exact .inl ⟨rfl, nofun⟩
  | cons tr rest ih =>
    cases hm : matchesEv tr t.event
    · rw [tryCands_cons_skip hm]
      exact (ih c).imp_right fun h => h.imp fun _ hx => ⟨.tail _ hx.1, hx.2⟩
    · rw [tryCands_cons_match hm, EM.bind_eq]
      have ha := activate_cases m t tr c
      rcases hr : (activate nestedRtc m t tr c).2 with e | _ | r
      · exact ha.imp (fun h => ⟨h.1, nofun⟩) fun h => ⟨tr, .head _, hm, h⟩
      · -- rejected: the loop goes on from where the candidate left the field
        rcases ih (activate nestedRtc m t tr c).1 with h | h
        · exact ha.imp (fun h' => ⟨h.1.trans h'.1, h.2⟩) fun h' => ⟨tr, .head _, hm, h.1.trans h'⟩
        · exact .inr (h.imp fun _ hx => ⟨.tail _ hx.1, hx.2⟩)
      · exact .inr ⟨tr, .head _, hm, ha.resolve_left fun h => h.2 r hr⟩

/-- while trigger `t` is processed, callback `cb` behaves as `act cb` whatever the invocation counter and the state it
sees — what C01 assumes of guards and validators: one value per event -/
def Beh (m : Machine) (t : Trigger) (act : CbId → Act) : Prop :=
  ∀ cb inv st, m.behav cb inv { tid := t.tid, state := st, event := t.event } = act cb

def firstRaise (act : CbId → Act) (cs : List CbId) : Option Nat := cs.findSome? fun cb => (act cb).raises

theorem firstRaise_none_iff (act : CbId → Act) (cs : List CbId) :
    firstRaise act cs = none ↔ ∀ cb ∈ cs, (act cb).raises = none := by
  simp [firstRaise]

/-- `cond`/`unless` conjunction -/
def guardsPass (m : Machine) (act : CbId → Act) (cs : List (CbId × Bool)) : Bool :=
  cs.all fun p => m.truthy (rtcRet m (act p.1)) == p.2

section Results
variable {m : Machine} {t : Trigger} {act : CbId → Act} (B : Beh m t act)
include B

theorem runCb_res (src : Option StateId) (tgt : StateId) (ph : Phase) (cb : CbId) (c : Cfg) :
    (runCb nestedRtc m ⟨t, src, tgt⟩ ph cb c).2 =
      match (act cb).raises with
      | some e => .error (.user e)
      | none => .ok (rtcRet m (act cb)) := by
  rw [runCb_rtc]
  simp only [B cb]
  cases (act cb).raises <;> rfl

theorem runGroup_res (src : Option StateId) (tgt : StateId) (ph : Phase) (cs : List CbId) (c : Cfg) :
    (runGroup nestedRtc m ⟨t, src, tgt⟩ ph cs c).2 =
      match firstRaise act cs with
      | some e => .error (.user e)
      | none => .ok (cs.map fun cb => rtcRet m (act cb)) := by
  induction cs generalizing c with
  | nil => rfl
  | cons cb cs ih =>
    simp only [runGroup, EM.bind_eq, runCb_res B, ih, firstRaise, List.findSome?_cons]
    cases (act cb).raises with
    | some e => rfl
    | none => cases List.findSome? (fun cb => (act cb).raises) cs <;> rfl

theorem runConds_res (src : Option StateId) (tgt : StateId) (cs : List (CbId × Bool))
    (hno : ∀ p ∈ cs, (act p.1).raises = none) (c : Cfg) :
    (runConds nestedRtc m ⟨t, src, tgt⟩ cs c).2 = .ok (guardsPass m act cs) := by
  induction cs generalizing c with
  | nil => rfl
  | cons p cs ih =>
    simp only [runConds, EM.bind_eq, runCb_res B, hno p List.mem_cons_self, guardsPass, List.all_cons]
    cases m.truthy (rtcRet m (act p.1)) == p.2
    · rfl
    · exact ih (fun p hp => hno p (.tail _ hp)) _
end Results

end SMV
