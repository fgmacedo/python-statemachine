import SMV.Lemmas.BinderBase
/-!
# The round trip `f(*ba.args, **ba.kwargs)` (C07)

What the callee finds in its parameters when `BoundArguments.args/.kwargs` are computed from some `arguments` `A` and
handed to the Python call protocol (`rt…`: round trip) — for any `A` of the right shape (`Shaped`), not only
`bind_expected`'s. `ba.args` passes the leading positional parameters by position as long as they have an entry; from
the first one without an entry on, everything travels by keyword (keyword mode, `rt2X`: a keyword for a positional-only
parameter ends up in `**kwargs`, or is a `TypeError`). If no positional-only parameter and no `*args` has an entry after
that point (`Closed`), every parameter finds its entry or its default (`rt1`).
-/
namespace SMV.Bind

/-- `.dflt.vals = []` and `.dflt.items n = []`: a missing entry contributes nothing to `ba.args` / `ba.kwargs`, and the
two cases need not be told apart -/
def entryOf (A : Arguments) (p : Param) : ArgVal := (lookup A p.name).getD .dflt

/-- what the parameter `p` finds when `f(*ba.args, **ba.kwargs)` is called and `A = ba.arguments` -/
def recv (A : Arguments) (p : Param) : Option ArgVal :=
  match p.kind with
  | .vp => some (.tuple (entryOf A p).vals)
  | .vk => some (.dict ((entryOf A p).items p.name))
  | _ => match lookup A p.name with
    | some (.one v) => some (.one v)
    | _ => dfltOr p

def Typed (A : Arguments) (p : Param) : Prop :=
  ∀ a, lookup A p.name = some a →
    match p.kind with
    | .vp => ∃ vs, a = .tuple vs
    | .vk => ∃ d, a = .dict d
    | _ => ∃ v, a = .one v

/-- what the round trip needs of the signature and of `arguments`. `clean`: the dict stored for `**kwargs` has no key
named like a positional-or-keyword or keyword-only parameter (else CPython's "multiple values for argument"). -/
structure Shaped (A : Arguments) (ps : List Param) : Prop where
  wf : WF ps
  typed : ∀ p ∈ ps, Typed A p
  clean : ∀ p ∈ ps, p.kind = .vk → ∀ d, lookup A p.name = some (.dict d) →
    ∀ q ∈ ps, (q.kind = .pk ∨ q.kind = .ko) → kwGet d q.name = none

theorem baKwargs_get_none (ps : List Param) (A : Arguments) (st : Bool) (n : Name)
    (hty : ∀ p ∈ ps, Typed A p) (hn : ∀ p ∈ ps, p.name ≠ n)
    (hd : ∀ p ∈ ps, p.kind = .vk → ∀ d, lookup A p.name = some (.dict d) → kwGet d n = none) :
    kwGet (baKwargs ps A st) n = none := by
  induction ps generalizing st with
  | nil => rfl
  | cons p ps ih =>
    obtain ⟨htp, hty⟩ := List.forall_mem_cons.mp hty
    obtain ⟨hnp, hn⟩ := List.forall_mem_cons.mp hn
    obtain ⟨hdp, hd⟩ := List.forall_mem_cons.mp hd
    by_cases hst : st = true ∨ p.kind = .ko ∨ p.kind = .vk
    · rw [baKwargs, if_pos hst, kwGet_append, ih true hty hn hd]
      cases hl : lookup A p.name with
      | none => rfl
      | some a =>
        -- the entry contributes nothing (`*args`), its dict (`**kwargs`), or one keyword, named `p.name ≠ n`
        have := htp a hl
        cases hk : p.kind
        all_goals
          simp only [hk] at this
          obtain ⟨x, rfl⟩ := this
        case vk => simpa [ArgVal.items] using hdp hk x hl
        all_goals simp [ArgVal.items, kwGet, hnp]
    · rw [baKwargs, if_neg hst]
      split <;> exact ih _ hty hn hd

namespace Shaped
variable {A : Arguments} {p : Param} {ps : List Param}

theorem tail (h : Shaped A (p :: ps)) : Shaped A ps :=
  ⟨h.wf.tail, fun q hq => h.typed q (List.mem_cons_of_mem _ hq),
    fun q hq hk d hl r hr => h.clean q (List.mem_cons_of_mem _ hq) hk d hl r (List.mem_cons_of_mem _ hr)⟩

theorem drop {pre r : List Param} (h : Shaped A (pre ++ r)) : Shaped A r := by
  induction pre with
  | nil => exact h
  | cons p ps ih => exact ih h.tail

theorem fresh (h : Shaped A (p :: ps)) (hk : p.kind = .pk ∨ p.kind = .ko) (st : Bool) :
    kwGet (baKwargs ps A st) p.name = none :=
  baKwargs_get_none ps A st p.name h.tail.typed (name_ne_head h.wf.names)
    fun q hq hq' d hl => h.clean q (List.mem_cons_of_mem _ hq) hq' d hl p List.mem_cons_self hk

theorem one (h : Shaped A (p :: ps)) (hn : named p = true) {a : ArgVal} (hl : lookup A p.name = some a) :
    ∃ v, a = .one v := by
  have := h.typed p List.mem_cons_self a hl
  rcases (named_iff p).mp hn with hk | hk | hk <;> rw [hk] at this <;> exact this

end Shaped

theorem pyCall_kw (p : Param) (ps : List Param) (K : KW) :
    pyCall (p :: ps) [] K =
      match p.kind with
      | .po => absent p (pyCall ps [] K)
      | .vp => consO (p.name, .tuple []) (pyCall ps [] K)
      | .vk => consO (p.name, .dict K) (pyCall ps [] [])
      | _ => byKeyword p K (pyCall ps []) := by
  cases hk : p.kind <;> simp only [pyCall, hk]

theorem baKwargs_started (p : Param) (ps : List Param) (A : Arguments) :
    baKwargs (p :: ps) A true = (entryOf A p).items p.name ++ baKwargs ps A true := by
  rw [baKwargs, if_pos (Or.inl rfl), entryOf]
  cases lookup A p.name <;> rfl

theorem byKeyword_miss (p : Param) (K : KW) (k : KW → Option Frame) (h : kwGet K p.name = none) :
    byKeyword p K k = absent p (k K) := by
  simp [byKeyword, h]

theorem byKeyword_hit (p : Param) (X R : KW) (v : Val) (k : KW → Option Frame) (hX : kwGet X p.name = none)
    (hR : kwGet R p.name = none) :
    byKeyword p (X ++ (p.name, v) :: R) k = consO (p.name, .one v) (k (X ++ R)) := by
  have hg : kwGet (X ++ (p.name, v) :: R) p.name = some v := by simp [kwGet_append, hX, kwGet]
  have he : kwErase (X ++ (p.name, v) :: R) p.name = X ++ R := by
    simp [kwErase_append, kwErase_absent _ _ hX, kwErase_absent _ _ hR, kwErase]
  simp [byKeyword, hg, he]

theorem byKeyword_entry {A : Arguments} {p : Param} {ps : List Param} (hsh : Shaped A (p :: ps))
    (hk : p.kind = .pk ∨ p.kind = .ko) (X : KW) (hX : kwGet X p.name = none) (k : KW → Option Frame) :
    byKeyword p (X ++ ((entryOf A p).items p.name ++ baKwargs ps A true)) k =
      deliver p.name (recv A p) (k (X ++ baKwargs ps A true)) := by
  have hR := hsh.fresh hk true
  have hr : recv A p = match lookup A p.name with | some (.one v) => some (.one v) | _ => dfltOr p := by
    rcases hk with h | h <;> simp only [recv, h]
  rw [hr, entryOf]
  cases hl : lookup A p.name with
  | none => rw [← absent_eq]; exact byKeyword_miss _ _ _ (by simp [kwGet_append, hX, hR, ArgVal.items])
  | some a =>
    obtain ⟨v, rfl⟩ := hsh.one ((named_iff p).mpr (Or.inr hk)) hl
    exact byKeyword_hit _ _ _ _ _ hX hR

/-- the keyword that a positional-only parameter sends on (it reaches `**kwargs`) -/
def poItem (A : Arguments) (p : Param) : KW := if p.kind = .po then (entryOf A p).items p.name else []

def poItems (A : Arguments) (ps : List Param) : KW := ps.flatMap (poItem A)

theorem poItems_cons (A : Arguments) (p : Param) (ps : List Param) :
    poItems A (p :: ps) = poItem A p ++ poItems A ps := rfl

/-- what `p` finds once `ba.kwargs` has started; `X` = the keywords travelling to `**kwargs` -/
def kwRecv (A : Arguments) (X : KW) (p : Param) : Option ArgVal :=
  match p.kind with
  | .po => dfltOr p
  | .vp => some (.tuple [])
  | .vk => some (.dict (X ++ (entryOf A p).items p.name))
  | _ => recv A p

/-- the callee's frame once `ba.kwargs` has started: `X` and the keywords of the positional-only parameters need a
`**kwargs` to land in, else CPython raises `TypeError` ("positional-only arguments passed as keyword arguments" /
"unexpected keyword argument") -/
def kwFrame (A : Arguments) (X : KW) (ps : List Param) : Option Frame :=
  if ps.all (fun p => p.kind != .vk) ∧ (X ++ poItems A ps).isEmpty = false then none
  else collect (ps.map fun p => (p.name, kwRecv A (X ++ poItems A ps) p))

theorem kwFrame_cons (A : Arguments) (X : KW) (p : Param) (ps : List Param) (hk : p.kind ≠ .vk) :
    kwFrame A X (p :: ps) =
      deliver p.name (kwRecv A (X ++ poItems A (p :: ps)) p) (kwFrame A (X ++ poItem A p) ps) := by
  have hk' : (p.kind != .vk) = true := by simp [hk]
  simp only [kwFrame, List.all_cons, hk', Bool.true_and, poItems_cons, List.map_cons, ← List.append_assoc, collect_cons]
  cases kwRecv A (X ++ poItem A p ++ poItems A ps) p with
  | none => exact ite_self none
  | some v => exact (consO_ite _ _ _).symm

/-- **Round trip, keyword mode.** `X`: keywords already on their way to `**kwargs`. -/
theorem rt2X (A : Arguments) (ps : List Param) (X : KW) (hsh : Shaped A ps)
    (hX : ∀ q ∈ ps, (q.kind = .pk ∨ q.kind = .ko) → kwGet X q.name = none) :
    pyCall ps [] (X ++ baKwargs ps A true) = kwFrame A X ps := by
  induction ps generalizing X with
  | nil => cases X <;> rfl
  | cons p ps ih =>
    have ih' := fun X hX => ih X hsh.tail hX
    obtain ⟨hXp, hX'⟩ := List.forall_mem_cons.mp hX
    rw [baKwargs_started, pyCall_kw]
    by_cases hvk : p.kind = .vk
    · -- `**kwargs` is the last parameter: both sides are computed
      obtain rfl := sorted_vk_last hsh.wf.order hvk
      simp [kwFrame, hvk, poItems, poItem, kwRecv, collect, pyCall, baKwargs, consO]
    rw [kwFrame_cons A X p ps hvk]
    have hpo : p.kind ≠ .po → poItem A p = [] := fun h => if_neg h
    cases hk : p.kind
    case vk => exact absurd hk hvk
    case vp =>
      -- a `*args` entry is a tuple (`Typed`) and puts nothing into `ba.kwargs`
      have hI : (entryOf A p).items p.name = [] := by
        rw [entryOf]
        cases hl : lookup A p.name with
        | none => rfl
        | some a =>
          have := hsh.typed p List.mem_cons_self a hl
          rw [hk] at this
          obtain ⟨vs, rfl⟩ := this
          rfl
      rw [hpo (by simp [hk]), List.append_nil, hI, ← ih' X hX']
      simp only [kwRecv, hk]
      rfl
    case po =>
      have hI : (entryOf A p).items p.name = poItem A p := (if_pos hk).symm
      have hX2 : ∀ q ∈ ps, (q.kind = .pk ∨ q.kind = .ko) → kwGet (X ++ poItem A p) q.name = none := by
        intro q hq hqk
        rw [kwGet_append, hX' q hq hqk, ← hI, entryOf]
        cases hl : lookup A p.name with
        | none => rfl
        | some a =>
          obtain ⟨v, rfl⟩ := hsh.one ((named_iff p).mpr (Or.inl hk)) hl
          simp [ArgVal.items, kwGet, (name_ne_head hsh.wf.names q hq).symm]
      rw [hI, ← List.append_assoc, ih' _ hX2, absent_eq]
      simp only [kwRecv, hk]
    all_goals
      rw [hpo (by simp [hk]), List.append_nil,
        byKeyword_entry hsh (by simp [hk]) X (hXp (by simp [hk])), ih' X hX']
      simp only [kwRecv, hk]

theorem kwFrame_of_absent (A : Arguments) (ps : List Param)
    (habs : ∀ q ∈ ps, (q.kind = .po ∨ q.kind = .vp) → lookup A q.name = none) :
    kwFrame A [] ps = collect (ps.map fun p => (p.name, recv A p)) := by
  have h0 : poItems A ps = [] := List.flatMap_eq_nil_iff.mpr fun p hp => by
    unfold poItem
    split
    next hk => simp [entryOf, habs p hp (Or.inl hk), ArgVal.items]
    · rfl
  simp only [kwFrame, h0, List.append_nil, List.isEmpty_nil, Bool.true_eq_false, and_false, if_false]
  congr 1
  apply List.map_congr_left
  intro p hp
  unfold kwRecv recv entryOf
  cases hk : p.kind
  case po | vp => simp [habs p hp (by simp [hk]), ArgVal.vals]
  all_goals rfl

theorem rt_kw_of_absent (A : Arguments) (ps : List Param) (hsh : Shaped A ps)
    (habs : ∀ q ∈ ps, (q.kind = .po ∨ q.kind = .vp) → lookup A q.name = none) :
    pyCall ps [] (baKwargs ps A true) = collect (ps.map fun p => (p.name, recv A p)) := by
  rw [← kwFrame_of_absent A ps habs, ← rt2X A ps [] hsh (fun _ _ _ => rfl)]
  rfl

theorem rt_pos_step {A : Arguments} {p : Param} {ps : List Param} (hsh : Shaped A (p :: ps)) (hp : isPos p = true)
    {a : ArgVal} (hl : lookup A p.name = some a) :
    pyCall (p :: ps) (baArgs (p :: ps) A) (baKwargs (p :: ps) A false) =
      consO (p.name, a) (pyCall ps (baArgs ps A) (baKwargs ps A false)) := by
  obtain ⟨v, rfl⟩ := hsh.one (named_of_isPos hp) hl
  rcases (isPos_iff p).mp hp with hk | hk
  · simp [pyCall, baArgs, baKwargs, hk, hl, ArgVal.vals]
  · -- positional-or-keyword: CPython also wants no keyword of that name ("multiple values")
    simp [pyCall, baArgs, baKwargs, hk, hl, ArgVal.vals, hsh.fresh (Or.inl hk) false]

theorem rt_prefix (A : Arguments) (pre r : List Param) (hsh : Shaped A (pre ++ r))
    (hpre : ∀ p ∈ pre, isPos p = true ∧ lookup A p.name ≠ none) :
    pyCall (pre ++ r) (baArgs (pre ++ r) A) (baKwargs (pre ++ r) A false) =
      prependO (pre.map fun p => (p.name, entryOf A p)) (pyCall r (baArgs r A) (baKwargs r A false)) := by
  induction pre with
  | nil => cases h : pyCall r (baArgs r A) (baKwargs r A false) <;> simp [h, prependO]
  | cons p ps ih =>
    obtain ⟨hp, hne⟩ := hpre p List.mem_cons_self
    obtain ⟨a, hl⟩ := Option.ne_none_iff_exists'.mp hne
    have hsh : Shaped A (p :: (ps ++ r)) := hsh
    rw [List.cons_append, rt_pos_step hsh hp hl, ih hsh.tail (fun q hq => hpre q (List.mem_cons_of_mem _ hq)),
      consO_prependO]
    simp [entryOf, hl]

/-- where `ba.args` ends, `kwargs_started` may as well have been set already -/
theorem ba_kw_starts (A : Arguments) (p : Param) (ps : List Param)
    (h : lookup A p.name = none ∨ p.kind = .ko ∨ p.kind = .vk) :
    baArgs (p :: ps) A = [] ∧ baKwargs (p :: ps) A false = baKwargs (p :: ps) A true := by
  by_cases hc : p.kind = .ko ∨ p.kind = .vk
  · exact ⟨by rw [baArgs, if_pos hc], by rw [baKwargs, baKwargs, if_pos (Or.inr hc), if_pos (Or.inl rfl)]⟩
  · rw [baKwargs_started, baArgs, baKwargs, if_neg hc, if_neg (by simpa using hc), entryOf, h.resolve_right hc]
    exact ⟨rfl, rfl⟩

theorem ba_tail (ps : List Param) (A : Arguments) (h : ∀ q ∈ ps, q.kind = .ko ∨ q.kind = .vk) :
    baArgs ps A = [] ∧ baKwargs ps A false = baKwargs ps A true := by
  cases ps with
  | nil => exact ⟨rfl, rfl⟩
  | cons q qs => exact ba_kw_starts A q qs (Or.inr (h q List.mem_cons_self))

theorem rt_vp (A : Arguments) (p : Param) (ps : List Param) (hk : p.kind = .vp)
    (htl : ∀ q ∈ ps, q.kind = .ko ∨ q.kind = .vk) :
    pyCall (p :: ps) (baArgs (p :: ps) A) (baKwargs (p :: ps) A false) =
      consO (p.name, .tuple (entryOf A p).vals) (pyCall ps [] (baKwargs ps A true)) := by
  cases hl : lookup A p.name <;>
    simp [pyCall, baArgs, baKwargs, hk, hl, entryOf, ba_tail ps A htl, ArgVal.vals]

/-- after a missing positional parameter, no positional-only parameter and no `*args` has an entry -/
def Closed (A : Arguments) (ps : List Param) : Prop :=
  ps.Pairwise (fun p q => isPos p = true → lookup A p.name = none →
    (q.kind = .po ∨ q.kind = .vp) → lookup A q.name = none)

/-- **Round trip.** `f(*ba.args, **ba.kwargs)` hands every parameter its entry of `ba.arguments`
(or its default; `TypeError` iff a parameter without default has no entry). -/
theorem rt1 (A : Arguments) (ps : List Param) (hsh : Shaped A ps) (hcl : Closed A ps) :
    pyCall ps (baArgs ps A) (baKwargs ps A false) = collect (ps.map fun p => (p.name, recv A p)) := by
  induction ps with
  | nil => rfl
  | cons p ps ih =>
    obtain ⟨hclh, hcl'⟩ := List.pairwise_cons.mp hcl
    have hlate : p.kind = .vp ∨ p.kind = .ko → ∀ q ∈ ps, q.kind = .ko ∨ q.kind = .vk :=
      fun hk q hq => (kindOk_order ((List.pairwise_cons.mp hsh.wf.order).1 q hq)).2.2.1 hk
    have hnone : p.kind = .vp ∨ p.kind = .ko → ∀ q ∈ ps, (q.kind = .po ∨ q.kind = .vp) → lookup A q.name = none :=
      fun hk q hq hq2 => by rcases hlate hk q hq with h | h <;> simp [h] at hq2
    -- a head that is not passed positionally: the call goes on in keyword mode
    have kwmode : ∀ h, (∀ q ∈ p :: ps, (q.kind = .po ∨ q.kind = .vp) → lookup A q.name = none) →
        pyCall (p :: ps) (baArgs (p :: ps) A) (baKwargs (p :: ps) A false) =
          collect ((p :: ps).map fun p => (p.name, recv A p)) := fun h habs => by
      rw [(ba_kw_starts A p ps h).1, (ba_kw_starts A p ps h).2]
      exact rt_kw_of_absent A (p :: ps) hsh habs
    cases hk : p.kind
    case vp =>
      rw [rt_vp A p ps hk (hlate (Or.inl hk)), rt_kw_of_absent A ps hsh.tail (hnone (Or.inl hk))]
      simp only [List.map_cons, recv, hk, collect]
    case ko =>
      exact kwmode (Or.inr (Or.inl hk)) (List.forall_mem_cons.mpr ⟨by simp [hk], hnone (Or.inr hk)⟩)
    case vk =>
      obtain rfl := sorted_vk_last hsh.wf.order hk
      exact kwmode (Or.inr (Or.inr hk)) (List.forall_mem_singleton.mpr (by simp [hk]))
    all_goals
      have hp : isPos p = true := by simp [isPos, hk]
      cases hl : lookup A p.name with
      | none => exact kwmode (Or.inl hl) (List.forall_mem_cons.mpr ⟨fun _ => hl, fun q hq => hclh q hq hp hl⟩)
      | some a =>
        obtain ⟨v, rfl⟩ := hsh.one (named_of_isPos hp) hl
        have : recv A p = some (.one v) := by simp [recv, hk, hl]
        rw [rt_pos_step hsh hp hl, ih hsh.tail hcl', List.map_cons, this]
        rfl

/-- `hd` is stronger than `Shaped.clean` (positional-only names too), so it can hold only of the parameters no
positional argument reaches: the name of a reached positional-only parameter may well be a key of `**kwargs` -/
theorem baKwargs_keys_nodup (ps : List Param) (A : Arguments) (st : Bool) (hsh : Shaped A ps)
    (hd : ∀ p ∈ ps, p.kind = .vk → ∀ d, lookup A p.name = some (.dict d) →
      (keys d).Nodup ∧ ∀ q ∈ ps, named q = true → kwGet d q.name = none) :
    (keys (baKwargs ps A st)).Nodup := by
  induction ps generalizing st with
  | nil => exact List.nodup_nil
  | cons p ps ih =>
    have ih' := fun st => ih st hsh.tail fun q hq hk d hl =>
      ⟨(hd q (List.mem_cons_of_mem _ hq) hk d hl).1,
       fun r hr hn => (hd q (List.mem_cons_of_mem _ hq) hk d hl).2 r (List.mem_cons_of_mem _ hr) hn⟩
    by_cases hst : st = true ∨ p.kind = .ko ∨ p.kind = .vk
    · rw [baKwargs, if_pos hst]
      cases hl : lookup A p.name with
      | none => exact ih' true
      | some a =>
        by_cases hn : named p = true
        · obtain ⟨v, rfl⟩ := hsh.one hn hl
          have : p.name ∉ keys (baKwargs ps A true) := by
            rw [← kwGet_none_iff]
            exact baKwargs_get_none ps A true p.name hsh.tail.typed (name_ne_head hsh.wf.names)
              fun q hq hk d hl => (hd q (List.mem_cons_of_mem _ hq) hk d hl).2 p List.mem_cons_self hn
          -- the key list computes to `p.name :: keys (baKwargs ps A true)`
          exact List.nodup_cons.mpr ⟨this, ih' true⟩
        · -- `*args` contributes nothing; `**kwargs` is the last parameter and contributes its dict
          have := hsh.typed p List.mem_cons_self a hl
          cases hk : p.kind
          case vp =>
            obtain ⟨x, rfl⟩ : ∃ vs, a = .tuple vs := by simpa only [hk] using this
            exact ih' true
          case vk =>
            obtain ⟨x, rfl⟩ : ∃ d, a = .dict d := by simpa only [hk] using this
            obtain rfl := sorted_vk_last hsh.wf.order hk
            simpa [ArgVal.items, baKwargs] using (hd p List.mem_cons_self hk x hl).1
          all_goals exact absurd (by rw [named, hk]; rfl) hn
    · rw [baKwargs, if_neg hst]
      split <;> exact ih' _

theorem baKwargs_prefix (A : Arguments) (pre r : List Param)
    (hpre : ∀ p ∈ pre, isPos p = true ∧ lookup A p.name ≠ none) :
    baKwargs (pre ++ r) A false = baKwargs r A false := by
  induction pre with
  | nil => rfl
  | cons p ps ih =>
    obtain ⟨hp, hne⟩ := hpre p List.mem_cons_self
    obtain ⟨a, hl⟩ := Option.ne_none_iff_exists'.mp hne
    have ih' := ih fun q hq => hpre q (List.mem_cons_of_mem _ hq)
    rcases (isPos_iff p).mp hp with hk | hk <;> simp [baKwargs, hk, hl, ih']

end SMV.Bind
