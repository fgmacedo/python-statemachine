import SMV.Model.Store
import SMV.Lemmas.ListAux
/-!
# Lemmas about the model-field store (C10)

`states_map` lookup in closed form, and the one fact every invariant rests on: whatever the machine
itself does to the store (`writeValue`, `writeState`, `send`, `start`) is nothing, or a *checked write*
`setCell (some v)` of a declared value (`Wrote`). A `Wrote` step keeps the two flags, hence `Coherent`,
and keeps `Mapped`. The user's raw write is the one operation that is not `Wrote` by itself: it keeps
the flags all the same (`step_flags`), and it is a checked write when the store is `Coherent` and the
value is a declared one (`step_wrote`).
-/
namespace SMV.Store

theorem lookupFrom_eq (vs : List Val) (i : Nat) (v : Val) :
    lookupFrom vs i v = ((vs.zipIdx i).reverse.find? (·.1 == v)).map (·.2) := by
  induction vs generalizing i with
  | nil => rfl
  | cons x xs ih =>
    -- `beq_iff_eq` here, so that no `v == v` is left for `simp [h]` below: the `ReflBEq` instance is slow to find
    simp only [lookupFrom, ih, List.zipIdx_cons, List.reverse_cons, List.find?_append, List.find?_singleton,
      beq_iff_eq]
    cases (xs.zipIdx (i + 1)).reverse.find? (·.1 = v) with
    | some p => rfl
    | none => by_cases h : x = v <;> simp [h]

theorem lookup_eq (m : Mach) (v : Val) :
    lookup m v = (m.values.zipIdx.reverse.find? (·.1 == v)).map (·.2) :=
  lookupFrom_eq _ 0 v

theorem getElem?_valueOf (m : Mach) (s : StateId) (h : s < m.n) : m.values[s]? = some (valueOf m s) := by
  rw [valueOf, List.getD, List.getElem?_eq_getElem h]; rfl

theorem lookup_value (m : Mach) (v : Val) (s : StateId) (h : lookup m v = some s) :
    s < m.n ∧ valueOf m s = v := by
  rw [lookup_eq, Option.map_eq_some_iff] at h
  obtain ⟨⟨w, _⟩, hf, rfl⟩ := h
  have hw : w = v := by simpa using List.find?_some hf
  have hs := List.mem_zipIdx_reverse.mp (List.mem_of_find?_eq_some hf)
  exact ⟨(List.getElem?_eq_some_iff.mp hs).1, by simp [valueOf, List.getD, hs, hw]⟩

theorem mapped_iff (m : Mach) (v : Val) : mapped m v = true ↔ v ∈ m.values := by
  rw [mapped, lookup_eq, Option.isSome_map, List.find?_isSome, List.mem_iff_getElem?]
  constructor
  · rintro ⟨p, hm, hw⟩
    exact ⟨p.2, beq_iff_eq.mp hw ▸ List.mem_zipIdx_reverse.mp hm⟩
  · rintro ⟨i, hi⟩
    exact ⟨(v, i), List.mem_zipIdx_reverse.mpr hi, beq_iff_eq.mpr rfl⟩

theorem lookup_eq_none (m : Mach) (v : Val) : lookup m v = none ↔ v ∉ m.values := by
  rw [← mapped_iff, mapped]; cases lookup m v <;> simp

theorem lookup_of_mem (m : Mach) (v : Val) (h : v ∈ m.values) : ∃ s, lookup m v = some s :=
  Option.isSome_iff_exists.mp ((mapped_iff m v).mpr h)

theorem mapped_valueOf (m : Mach) (s : StateId) (h : s < m.n) : mapped m (valueOf m s) = true :=
  (mapped_iff m _).mpr (List.mem_of_getElem? (getElem?_valueOf m s h))

theorem valueOf_inj (m : Mach) (hd : m.values.Nodup) {s s' : StateId} (hs : s < m.n) (hs' : s' < m.n)
    (h : valueOf m s = valueOf m s') : s = s' :=
  (List.getElem?_inj hs hd).mp (by rw [getElem?_valueOf m s hs, getElem?_valueOf m s' hs', h])

theorem lookup_iff (m : Mach) (hd : m.values.Nodup) (v : Val) (s : StateId) :
    lookup m v = some s ↔ s < m.n ∧ valueOf m s = v := by
  refine ⟨lookup_value m v s, ?_⟩
  rintro ⟨hlt, hv⟩
  obtain ⟨s', h'⟩ := lookup_of_mem m v (hv ▸ List.mem_of_getElem? (getElem?_valueOf m s hlt))
  obtain ⟨hlt', hv'⟩ := lookup_value m v s' h'
  rw [h', valueOf_inj m hd hlt' hlt (hv'.trans hv.symm)]

@[simp] theorem cell_setCell (st : Store) (v : Option Val) : (st.setCell v).cell = v := by
  unfold Store.setCell Store.cell; cases st.usesUser <;> simp

@[simp] theorem usesUser_setCell (st : Store) (v : Option Val) : (st.setCell v).usesUser = st.usesUser := by
  unfold Store.setCell; cases st.usesUser <;> simp

@[simp] theorem supplied_setCell (st : Store) (v : Option Val) : (st.setCell v).supplied = st.supplied := by
  unfold Store.setCell; cases st.usesUser <;> simp

/-- the machine and the user look at the same object -/
def Coherent (st : Store) : Prop := st.supplied = true → st.usesUser = true

instance (st : Store) : Decidable (Coherent st) := by unfold Coherent; infer_instance

theorem Coherent.userView {st : Store} (h : Coherent st) : st.userView = st.cell := by
  unfold Store.userView Store.cell
  cases hs : st.supplied
  · simp
  · simp [h hs]

theorem Coherent.userWrite {st : Store} (h : Coherent st) (v : Option Val) : st.userWrite v = st.setCell v := by
  unfold Store.userWrite Store.setCell
  cases hs : st.supplied
  · simp
  · simp [h hs]

theorem Coherent.of_flags {st st' : Store} (h : Coherent st)
    (hf : st'.supplied = st.supplied ∧ st'.usesUser = st.usesUser) : Coherent st' := by
  unfold Coherent; rw [hf.1, hf.2]; exact h

theorem Coherent.setCell {st : Store} (h : Coherent st) (v : Option Val) : Coherent (st.setCell v) :=
  h.of_flags (by simp)

theorem Coherent.userView_setCell {st : Store} (h : Coherent st) (v : Option Val) :
    (st.setCell v).userView = v := by
  rw [(h.setCell v).userView, cell_setCell]

theorem writeValue_mapped (m : Mach) (v : Val) (st : Store) (h : mapped m v = true) :
    writeValue m (some v) st = (st.setCell (some v), .ok ()) := by
  simp [writeValue, h]

theorem writeValue_refused (m : Mach) (w : Option Val) (st : Store) (h : ∀ v, w = some v → v ∉ m.values) :
    writeValue m w st = (st, .error .invalidState) := by
  cases w with
  | none => rfl
  | some v =>
    have : mapped m v = false := by
      rw [← Bool.not_eq_true, mapped_iff]; exact h v rfl
    simp [writeValue, this]

/-- the cell holds a declared value: what `current_state` needs in order not to raise -/
def Mapped (m : Mach) (st : Store) : Prop := ∃ v, st.cell = some v ∧ mapped m v = true

/-- all that the machine's own operations do to a store -/
def Wrote (m : Mach) (st st' : Store) : Prop :=
  st' = st ∨ ∃ v, mapped m v = true ∧ st' = st.setCell (some v)

theorem Wrote.flags {m : Mach} {st st' : Store} (h : Wrote m st st') :
    st'.supplied = st.supplied ∧ st'.usesUser = st.usesUser := by
  rcases h with rfl | ⟨v, _, rfl⟩ <;> simp

theorem Wrote.mapped {m : Mach} {st st' : Store} (h : Wrote m st st') (hm : Mapped m st) : Mapped m st' := by
  rcases h with rfl | ⟨v, hv, rfl⟩
  · exact hm
  · exact ⟨v, cell_setCell .., hv⟩

theorem writeValue_wrote (m : Mach) (v : Option Val) (st : Store) : Wrote m st (writeValue m v st).1 := by
  unfold writeValue
  split
  · exact .inl rfl
  · split
    · exact .inr ⟨_, ‹_›, rfl⟩
    · exact .inl rfl

theorem send_wrote (m : Mach) (e : EventId) (st : Store) : Wrote m st (send m e st).1 := by
  unfold send
  split
  · exact .inl rfl
  · split
    · exact writeValue_wrote ..
    · split <;> exact .inl rfl

theorem start_eq (fixed : Bool) (m : Mach) (sv : Option Val) (st : Store) :
    start fixed m sv st =
      if st.cell.isSome then (st, .ok ()) else writeValue m (some (initialValue fixed m sv)) st := by
  unfold start
  cases st.cell with
  | some _ => rfl
  | none =>
    cases h : lookup m (initialValue fixed m sv) with
    | none => exact (writeValue_refused m _ st fun v hv => Option.some.inj hv ▸ (lookup_eq_none ..).mp h).symm
    | some s => simp [writeState, (lookup_value _ _ _ h).2]

theorem start_wrote (fixed : Bool) (m : Mach) (sv : Option Val) (st : Store) :
    Wrote m st (start fixed m sv st).1 := by
  rw [start_eq]; split
  · exact .inl rfl
  · exact writeValue_wrote ..

theorem step_flags (m : Mach) (op : Op) (st : Store) :
    (step m op st).1.supplied = st.supplied ∧ (step m op st).1.usesUser = st.usesUser := by
  cases op with
  | send e => exact (send_wrote m e st).flags
  | writeValue v => exact (writeValue_wrote m v st).flags
  | writeState s => exact (writeValue_wrote m _ st).flags
  | raw v => dsimp only [step, Store.userWrite]; split <;> simp
  | read => exact ⟨rfl, rfl⟩

/-- the histories `C10_exactly_one_active` speaks of: the user's raw writes put declared values. `.raw none`
(the user deletes the attribute or stores `None`) is left out like any undeclared value: it empties the cell, and
`Mapped` is lost (`C10_invalid_write` says what the readers do then). -/
def Op.valid (m : Mach) : Op → Prop
  | .raw none => False
  | .raw (some v) => mapped m v = true
  | _ => True

instance (m : Mach) (op : Op) : Decidable (op.valid m) := by
  cases op with
  | raw v => cases v <;> (simp only [Op.valid]; infer_instance)
  | _ => exact isTrue trivial

theorem step_wrote (m : Mach) (op : Op) (st : Store) (hc : Coherent st) (hv : op.valid m) :
    Wrote m st (step m op st).1 := by
  cases op with
  | send e => exact send_wrote m e st
  | writeValue v => exact writeValue_wrote m v st
  | writeState s => exact writeValue_wrote m _ st
  | raw v =>
    cases v with
    | none => exact hv.elim
    | some v => exact .inr ⟨v, hv, hc.userWrite _⟩
  | read => exact .inl rfl

theorem run_induct (m : Mach) (P : Store → Prop) (ops : List Op)
    (hstep : ∀ op ∈ ops, ∀ st, P st → P (step m op st).1) (st : Store) (h : P st) : P (run m ops st) := by
  induction ops generalizing st with
  | nil => exact h
  | cons op ops ih =>
    exact ih (fun o ho => hstep o (List.mem_cons_of_mem _ ho)) _ (hstep op List.mem_cons_self st h)

theorem run_coherent (m : Mach) (ops : List Op) (st : Store) (h : Coherent st) : Coherent (run m ops st) :=
  run_induct m Coherent ops (fun op _ st h => h.of_flags (step_flags m op st)) st h

theorem run_Mapped (m : Mach) (ops : List Op) (st : Store) (hc : Coherent st)
    (hv : ∀ op ∈ ops, op.valid m) (h : Mapped m st) : Mapped m (run m ops st) :=
  (run_induct m (fun st => Coherent st ∧ Mapped m st) ops
    (fun op ho st h => ⟨h.1.of_flags (step_flags m op st), (step_wrote m op st h.1 (hv op ho)).mapped h.2⟩)
    st ⟨hc, h⟩).2

/-- the repaired constructor keeps the user's object, whatever its truth value -/
theorem chooseModel_coherent (um : Option UserModel) : Coherent (chooseModel true um) := by
  cases um <;> simp [chooseModel, Coherent]

theorem construct_coherent (m : Mach) (um : Option UserModel) (sv : Option Val) :
    Coherent (construct true m um sv).1 :=
  (chooseModel_coherent um).of_flags (start_wrote true m sv _).flags

theorem chooseModel_cell (fixed : Bool) (um : Option UserModel) (h : ∀ u, um = some u → u.cell = none) :
    (chooseModel fixed um).cell = none := by
  cases um with
  | none => rfl
  | some u => simp [chooseModel, Store.cell, h u rfl]

theorem construct_of_empty (fixed : Bool) (m : Mach) (um : Option UserModel) (sv : Option Val)
    (h : ∀ u, um = some u → u.cell = none) :
    construct fixed m um sv = writeValue m (some (initialValue fixed m sv)) (chooseModel fixed um) := by
  rw [construct, start_eq, chooseModel_cell fixed um h]; rfl

end SMV.Store
