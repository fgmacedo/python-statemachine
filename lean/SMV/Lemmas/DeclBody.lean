import SMV.Lemmas.DeclMeta
/-!
The body of `class Sub(Base)` starts from the base's store `b` (`startClass`; `b = []` without a base).
`BodyInv b G c`: the store is `b`, untouched, followed by new entries whose sources satisfy `G` and
whose events carry no transition list yet (only the metaclass creates those); every transition list
held by an attribute mentions new, existing store positions only, and every declared state is new for
`b`. `states`, `events`, `pending` are untouched (`Untouched`).
-/
namespace SMV.Decl

theorem kwEvents_plain (items : List EvItem) : ∀ ev ∈ kwEvents items, plainEv ev := by
  intro ev hev
  rcases mem_foldl_addEv _ _ hev with h | h
  · cases h
  · obtain ⟨it, _, hit⟩ := List.mem_flatMap.mp h
    cases it with
    | str ids =>
      obtain ⟨i, _, rfl⟩ := List.mem_map.mp hit
      trivial
    | obj id => rw [List.mem_singleton.mp hit]; trivial
    | ph v => rw [List.mem_singleton.mp hit]; trivial

def Frame (b : List TDef) (P : TDef → Prop) (l : List TDef) : Prop :=
  ∃ new, l = b ++ new ∧ ∀ t ∈ new, P t

section
variable {b l : List TDef} {P Q : TDef → Prop} {G : Src → Prop}

theorem Frame.mono (h : Frame b P l) (hPQ : ∀ t, P t → Q t) : Frame b Q l := by
  obtain ⟨new, h1, h2⟩ := h
  exact ⟨new, h1, fun t ht => hPQ t (h2 t ht)⟩

theorem Frame.le (h : Frame b P l) : b.length ≤ l.length := by
  obtain ⟨new, h1, _⟩ := h
  simp [h1]

theorem Frame.modifyAt (h : Frame b P l) (f : TDef → TDef) (hf : ∀ t, P t → P (f t))
    {i : Nat} (hi : b.length ≤ i) : Frame b P (modifyAt f l i) := by
  obtain ⟨new, h1, h2⟩ := h
  exact ⟨SMV.Decl.modifyAt f new (i - b.length),
    by simp only [SMV.Decl.modifyAt, h1, List.modify_append_right _ _ _ _ hi], forall_modify hf h2 _⟩

theorem Frame.append (h : Frame b P l) (ts : List TDef) (hts : ∀ t ∈ ts, P t) : Frame b P (l ++ ts) := by
  obtain ⟨new, h1, h2⟩ := h
  exact ⟨new ++ ts, by rw [h1, List.append_assoc], List.forall_mem_append.mpr ⟨h2, hts⟩⟩

theorem Frame.getElem? (h : Frame b P l) {i : Nat} {t : TDef} (hi : b.length ≤ i) (ht : l[i]? = some t) : P t := by
  obtain ⟨new, h1, h2⟩ := h
  rw [h1, List.getElem?_append_right hi] at ht
  exact h2 t (List.mem_of_getElem? ht)

theorem Frame.of_source (h : Frame b P l) {s : Name} (hs : ∀ t ∈ b, t.source ≠ .st s)
    {t : TDef} (ht : t ∈ l) (hts : t.source = .st s) : P t := by
  obtain ⟨new, h1, h2⟩ := h
  rcases List.mem_append.mp (h1 ▸ ht) with h3 | h3
  · exact absurd hts (hs t h3)
  · exact h2 t h3

theorem Frame.outOf {c : Cls} (h : Frame b P c.trans) (s : Name) (hs : ∀ t, P t → t.source ≠ .st s) :
    outOf c s = b.filter (·.source == .st s) := by
  obtain ⟨new, h1, h2⟩ := h
  have : new.filter (·.source == .st s) = [] :=
    List.filter_eq_nil_iff.mpr fun t ht e => hs t (h2 t ht) (by simpa using e)
  rw [SMV.Decl.outOf, h1, List.filter_append, this, List.append_nil]

/-- no entry of `b` leaves `s`, so registering `s` (`add_state`) finds no event of the base to re-run -/
def freshFor (b : List TDef) (s : SDecl) : Prop := ∀ t ∈ b, t.source ≠ .st s.name

/-- the event an attribute of the body defines: its list points into `c`'s store, beyond `b` -/
def bodyEv (b : List TDef) (c : Cls) (ev : EvRef) : Prop :=
  okEv c.trans.length (c.attrs.map (·.1)) ev ∧ hiEv b.length ev

structure BodyInv (b : List TDef) (G : Src → Prop) (c : Cls) : Prop where
  frame : Frame b (fun t => G t.source ∧ ∀ ev ∈ t.events, plainEv ev) c.trans
  attrs : ∀ a ∈ c.attrs, attrOk (bodyEv b c) (freshFor b) a

theorem BodyInv.start (base : Cls) : BodyInv base.trans G (startClass base) where
  frame := ⟨[], (List.append_nil _).symm, List.forall_mem_nil _⟩
  attrs := List.forall_mem_nil _

/-- without a base, every entry is new -/
theorem BodyInv.plain {c : Cls} (h : BodyInv [] G c) : ∀ t ∈ c.trans, ∀ ev ∈ t.events, plainEv ev := by
  intro t ht
  obtain ⟨i, hi⟩ := List.mem_iff_getElem?.mp ht
  exact (h.frame.getElem? (Nat.zero_le i) hi).2

theorem BodyInv.idx {c : Cls} (h : BodyInv b G c) :
    ∀ a ∈ c.attrs, okAttr c.trans.length (c.attrs.map (·.1)) a :=
  fun a ha => (h.attrs a ha).mono (fun _ h => h.1) (fun _ _ => trivial)

theorem BodyInv.attrs_mono {c c' : Cls} (h : BodyInv b G c) (hn : c.trans.length ≤ c'.trans.length)
    (hs : ∀ k ∈ c.attrs.map (·.1), k ∈ c'.attrs.map (·.1)) :
    ∀ a ∈ c.attrs, attrOk (bodyEv b c') (freshFor b) a :=
  fun a ha => (h.attrs a ha).mono (fun _ h => ⟨h.1.mono hn hs, h.2⟩) (fun _ h => h)

theorem BodyInv.push {c : Cls} (h : BodyInv b G c) (ts : List TDef)
    (hts : ∀ t ∈ ts, G t.source ∧ ∀ ev ∈ t.events, plainEv ev) : BodyInv b G (push c ts).1 :=
  ⟨h.frame.append ts hts, h.attrs_mono (push_length c ts ▸ Nat.le_add_right ..) (fun _ hk => hk)⟩

theorem BodyInv.addOn {c : Cls} (h : BodyInv b G c) (idxs : List Nat) (cb : CbId)
    (hi : ∀ i ∈ idxs, b.length ≤ i) : BodyInv b G (addOn c idxs cb) where
  frame := idxs.foldlRecOn _ h.frame fun _ hl i hm =>
    hl.modifyAt _ (fun t ht => by split <;> exact ht) (hi i hm)
  attrs := h.attrs_mono (Nat.le_of_eq (addOn_comm_length c idxs cb).symm) (fun _ hk => hk)

theorem BodyInv.addAttrs {c : Cls} (h : BodyInv b G c) (kvs : List (Name × AttrVal))
    (hk : ∀ a ∈ kvs, attrOk (bodyEv b (addAttrs c kvs)) (freshFor b) a) : BodyInv b G (addAttrs c kvs) :=
  ⟨h.frame, List.forall_mem_append.mpr ⟨h.attrs_mono (c' := SMV.Decl.addAttrs c kvs) (Nat.le_refl _)
    fun k hk' => by simp only [SMV.Decl.addAttrs, List.map_append]; exact List.mem_append_left _ hk', hk⟩⟩

theorem BodyInv.addAttr {c : Cls} (h : BodyInv b G c) (k : Name) (v : AttrVal)
    (hk : attrOk (bodyEv b (addAttr c k v)) (freshFor b) (k, v)) : BodyInv b G (addAttr c k v) :=
  h.addAttrs [(k, v)] (List.forall_mem_singleton.mpr hk)

theorem bodyEv_none {c : Cls} {k : Name} : bodyEv b c (.real k none) := ⟨trivial, List.forall_mem_nil _⟩

theorem bodyEv_new {c : Cls} {k : Name} {v : AttrVal} {idxs : List Nat}
    (hi : ∀ i ∈ idxs, b.length ≤ i ∧ i < c.trans.length) :
    bodyEv b (addAttr c k v) (.real k (some idxs)) :=
  ⟨⟨List.mem_map.mpr ⟨(k, v), List.mem_append_right _ (.head _), rfl⟩, fun i h => (hi i h).2⟩, fun i h => (hi i h).1⟩

theorem bodyEv_normTl {c : Cls} {k : Name} {v : AttrVal} {idxs : List Nat}
    (hi : ∀ i ∈ idxs, b.length ≤ i ∧ i < c.trans.length) :
    bodyEv b (addAttr c k v) (.real k (normTl (some idxs))) := by
  cases idxs with
  | nil => exact bodyEv_none
  | cons i is => exact bodyEv_new hi

theorem evalT_spec (e : TExpr) (c : Cls) (h : BodyInv b G c) (hs : ∀ x ∈ e.srcs, G x) :
    BodyInv b G (evalT c e).1 ∧ ∀ i ∈ (evalT c e).2, b.length ≤ i ∧ i < (evalT c e).1.trans.length := by
  rw [evalT_fst]
  refine ⟨h.push _ fun t ht => ?_, fun i hi => ?_⟩
  · obtain ⟨src, tgt, kw, rfl, hsrc⟩ := mem_flat ht
    exact ⟨hs _ hsrc, kwEvents_plain kw.event⟩
  · rw [push_length]
    rcases mem_evalT_snd hi with h1 | ⟨a, ha⟩
    · exact ⟨Nat.le_trans h.frame.le h1.1, h1.2⟩
    · obtain ⟨idxs, h1, h2⟩ := mem_lookupTL ha
      have := h.attrs _ h1
      exact ⟨this.2 i h2, Nat.lt_of_lt_of_le (this.1.2 i h2) (Nat.le_add_right ..)⟩

theorem elabStmt_spec (c : Cls) (h : BodyInv b G c) (st : Stmt) (hs : ∀ x ∈ st.srcs, G x)
    (hd : ∀ s ∈ st.decls, freshFor b s) : BodyInv b G (elabStmt c st) := by
  have states : ∀ ss : List SDecl, (∀ s ∈ ss, freshFor b s) → BodyInv b G (addAttrs c (stateAttrs ss)) :=
    fun ss hd => h.addAttrs _ (List.forall_mem_map.mpr hd)
  cases st with
  | state sd => exact states _ hd
  | statesDict ss => exact states _ hd
  | statesEnum ms i fs => exact states _ hd
  | placeholder a => exact h.addAttr a _ bodyEv_none
  | assign a e =>
    obtain ⟨h1, i1⟩ := evalT_spec e c h hs
    exact h1.addAttr a _ (bodyEv_new i1)
  | bare e => exact (evalT_spec e c h hs).1
  | eventOf a e =>
    obtain ⟨h1, i1⟩ := evalT_spec e c h hs
    exact h1.addAttr a _ (bodyEv_normTl i1)
  | decorated e f cb =>
    obtain ⟨h1, i1⟩ := evalT_spec e c h hs
    exact (h1.addOn _ cb fun i hi => (i1 i hi).1).addAttr f _
      (bodyEv_new fun i hi => ⟨(i1 i hi).1, (addOn_comm_length _ _ cb).symm ▸ (i1 i hi).2⟩)

theorem elabBody_spec (p : List Stmt) (c : Cls) (h : BodyInv b G c) (hs : ∀ st ∈ p, ∀ x ∈ st.srcs, G x)
    (hd : ∀ st ∈ p, ∀ s ∈ st.decls, freshFor b s) : BodyInv b G (elabBody c p) :=
  p.foldlRecOn _ h fun c hc st hm => elabStmt_spec c hc st (hs st hm) (hd st hm)

structure Untouched (c c' : Cls) : Prop where
  states : c'.states = c.states
  events : c'.events = c.events
  pending : c'.pending = c.pending

theorem elabStmt_untouched (c : Cls) (st : Stmt) : Untouched c (elabStmt c st) := by
  cases st <;> simp only [elabStmt, evalT_fst] <;> exact ⟨rfl, rfl, rfl⟩

theorem elabBody_untouched (p : List Stmt) (c : Cls) : Untouched c (elabBody c p) :=
  p.foldlRecOn _ ⟨rfl, rfl, rfl⟩ fun c' u st _ =>
    have u1 := elabStmt_untouched c' st
    ⟨u1.states.trans u.states, u1.events.trans u.events, u1.pending.trans u.pending⟩

end
end SMV.Decl
