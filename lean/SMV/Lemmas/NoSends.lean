import SMV.Lemmas.Rtc
/-!
# Callbacks that send no events: the nested-send handler is never consulted

If no invocation made while trigger `t` is processed calls `send`, every engine function from `runCb` to `trigger` is,
for `t`, the same for every handler: what is proved of one of them for `nestedRtc` holds verbatim in the depth-first
mode (`rtc=False`).
-/
namespace SMV

def NoSends (m : Machine) : Prop := ∀ cb inv obs, (m.behav cb inv obs).sends = []

def NoSendsAt (m : Machine) (t : Trigger) : Prop :=
  ∀ cb inv st, (m.behav cb inv { tid := t.tid, state := st, event := t.event }).sends = []

theorem NoSends.at {m : Machine} (hs : NoSends m) (t : Trigger) : NoSendsAt m t := fun cb inv _ => hs cb inv _

theorem Beh.noSendsAt {m : Machine} {t : Trigger} {act : CbId → Act} (B : Beh m t act)
    (hs : ∀ cb, (act cb).sends = []) : NoSendsAt m t := fun cb inv st => by rw [B cb inv st]; exact hs cb

section
variable {m : Machine} {t : Trigger} (hs : NoSendsAt m t) (h : Nested)
include hs

theorem runCb_any (src : Option StateId) (tgt : StateId) (ph : Phase) (cb : CbId) :
    runCb h m ⟨t, src, tgt⟩ ph cb = runCb nestedRtc m ⟨t, src, tgt⟩ ph cb := by
  simp only [runCb, hs cb, sendsLoop]

theorem runGroup_any (src : Option StateId) (tgt : StateId) (ph : Phase) (cs : List CbId) :
    runGroup h m ⟨t, src, tgt⟩ ph cs = runGroup nestedRtc m ⟨t, src, tgt⟩ ph cs := by
  induction cs with
  | nil => rfl
  | cons cb cs ih => simp only [runGroup, runCb_any hs h, ih]

theorem runConds_any (src : Option StateId) (tgt : StateId) (cs : List (CbId × Bool)) :
    runConds h m ⟨t, src, tgt⟩ cs = runConds nestedRtc m ⟨t, src, tgt⟩ cs := by
  induction cs with
  | nil => rfl
  | cons p cs ih => simp only [runConds, runCb_any hs h, ih]

theorem activatePre_any (tr : Transn) : activatePre h m t tr = activatePre nestedRtc m t tr := by
  simp only [activatePre, runGroup_any hs h, runConds_any hs h]

theorem activatePost_any (tr : Transn) : activatePost h m t tr = activatePost nestedRtc m t tr := by
  simp only [activatePost, runGroup_any hs h]

theorem activate_any (tr : Transn) : activate h m t tr = activate nestedRtc m t tr := by
  simp only [activate, activatePre_any hs h, activatePost_any hs h]

theorem tryCands_any (trs : List Transn) : tryCands h m t trs = tryCands nestedRtc m t trs := by
  induction trs with
  | nil => rfl
  | cons tr rest ih => simp only [tryCands, activate_any hs h, ih]

theorem activateInitial_any : activateInitial h m t = activateInitial nestedRtc m t := by
  simp only [activateInitial, runGroup_any hs h]

theorem trigger_any_at : trigger h m t = trigger nestedRtc m t := by
  simp only [trigger, tryCands_any hs h, activateInitial_any hs h]
end

section
variable {m : Machine} (hs : NoSends m)
include hs

theorem trigger_any (h : Nested) (t : Trigger) : trigger h m t = trigger nestedRtc m t :=
  trigger_any_at (hs.at t) h
end

end SMV
