import SMV.Lemmas.DeclStyles
/-!
# Rewrite (e) of C15, decorator form (`decorated_eq`)

`T` creates all its transitions itself, so both statements are one `push` (`evalT_flat`): of `T.flat`
followed by the decoration of exactly these entries, or of the decorated entries.
-/
namespace SMV.Decl

/-- what the decorator does to one transition -/
def onAdd (cb : CbId) (t : TDef) : TDef := if t.on.contains cb then t else { t with on := t.on ++ [cb] }

def Kw.withOn (kw : Kw) (cb : CbId) : Kw := { kw with on := kw.on ++ [cb] }

def TExpr.withOn : TExpr → CbId → TExpr
  | .to s ts kw, cb => .to s ts (kw.withOn cb)
  | .from_ t ss kw, cb => .from_ t ss (kw.withOn cb)
  | .toItself s kw, cb => .toItself s (kw.withOn cb)
  | .fromItself s kw, cb => .fromItself s (kw.withOn cb)
  | .fromAny t kw, cb => .fromAny t (kw.withOn cb)
  | .or a b, cb => .or (a.withOn cb) (b.withOn cb)
  | .ref a, _ => .ref a

/-- no reference to an earlier list, and no call already names `cb` in `on=` -/
def TExpr.fresh (cb : CbId) : TExpr → Prop
  | .to _ _ kw => cb ∉ kw.on
  | .from_ _ _ kw => cb ∉ kw.on
  | .toItself _ kw => cb ∉ kw.on
  | .fromItself _ kw => cb ∉ kw.on
  | .fromAny _ kw => cb ∉ kw.on
  | .or a b => a.fresh cb ∧ b.fresh cb
  | .ref _ => False

theorem addOn_eq (c : Cls) (idxs : List Nat) (cb : CbId) :
    addOn c idxs cb = { c with trans := idxs.foldl (modifyAt (onAdd cb)) c.trans } := rfl

theorem onAdd_mkT (src : Src) (tgt : Name) (kw : Kw) (cb : CbId) (h : cb ∉ kw.on) :
    onAdd cb (mkT src tgt kw) = mkT src tgt (kw.withOn cb) := by
  simp [onAdd, mkT, Kw.withOn, h]

theorem badInternal_onAdd (cb : CbId) (t : TDef) : badInternal (onAdd cb t) = badInternal t := by
  unfold onAdd; split <;> rfl

theorem push_addOn (c : Cls) (ts : List TDef) (cb : CbId) :
    addOn (push c ts).1 (push c ts).2 cb = (push c (ts.map (onAdd cb))).1 := by
  have h := foldl_modify_block (onAdd cb) ts c.trans []
  simp only [List.append_nil] at h
  have hb : badInternal ∘ onAdd cb = badInternal := funext (badInternal_onAdd cb)
  simp only [addOn_eq, push, h, List.any_map, hb]

theorem TExpr.fresh.closed {cb : CbId} {e : TExpr} (h : e.fresh cb) : e.closed := by
  induction e with
  | or a b iha ihb => exact ⟨iha h.1, ihb h.2⟩
  | ref k => exact h
  | _ => trivial

theorem TExpr.closed.withOn {e : TExpr} (h : e.closed) (cb : CbId) : (e.withOn cb).closed := by
  induction e with
  | or a b iha ihb => exact ⟨iha h.1, ihb h.2⟩
  | ref k => exact h
  | _ => trivial

theorem flat_withOn {cb : CbId} {e : TExpr} (h : e.fresh cb) : (e.withOn cb).flat = e.flat.map (onAdd cb) := by
  induction e with
  | or a b iha ihb => simp only [TExpr.withOn, TExpr.flat, iha h.1, ihb h.2, List.map_append]
  | ref k => rfl
  | _ => simp [TExpr.withOn, TExpr.flat, onAdd_mkT _ _ _ _ h]

/-- **(e, decorator)** `@T` / `def f(self): body` ↔ `f = T'` where every call of `T'` names `body` last in
`on=` — in any context (`T` must create its transitions itself and not already name the callback) -/
theorem decorated_eq (e : TExpr) (f : Name) (cb : CbId) (he : e.fresh cb) :
    Stmts.Eqv [.decorated e f cb] [.assign f (e.withOn cb)] := by
  intro c
  simp only [elabBody, List.foldl_cons, List.foldl_nil, elabStmt, evalT_flat _ he.closed,
    evalT_flat _ (he.closed.withOn cb), flat_withOn he, push_addOn]
  -- what differs is the attribute's index list: `range'` over `e.flat`, or over its image under `map`
  simp only [push, List.length_map]

end SMV.Decl
