import SMV.Lemmas.NoSends
import SMV.Lemmas.ListAux
/-!
# C02 — Callback groups run in the documented order with the documented view of state

For every machine, transition (external, self, internal, multi-event), trigger and callback behaviour (no assumption
on callbacks), in run-to-completion mode, read off the entries one activation appends to the log: the order of the
groups, also when the activation stops early (`ExtPh`, over ranked entries); which callbacks run in which group
(`ActEntry`, over `groupCbs`); what they are shown as the current state (`View`); the same for the initial
activation (`InitEntry`).
-/
namespace SMV

/-- the position of a group within one activation; 5 is the assignment between `on` and `enter` (`Entry.rank`) -/
def Phase.rank : Phase → Nat
  | .validators => 0 | .cond => 1 | .before => 2 | .exit => 3 | .on => 4 | .enter => 6 | .after => 7

def Entry.rank : Entry → Nat
  | .cbBegin _ ph .. => ph.rank
  | .sendRet _ ph .. => ph.rank
  | .cbEnd _ ph .. => ph.rank
  | .setState _ _ => 5

def ExtPh (lo hi : Nat) (c c' : Cfg) : Prop :=
  ∃ es, c'.log = c.log ++ es ∧ (es.map Entry.rank).Pairwise (· ≤ ·) ∧ ∀ e ∈ es, lo ≤ e.rank ∧ e.rank ≤ hi

def RespPh (lo hi : Nat) {α} (x : EM α) : Prop := ∀ c, ExtPh lo hi c (x c).1

theorem ExtPh.refl (lo hi : Nat) (c : Cfg) : ExtPh lo hi c c := ⟨[], by simp⟩

theorem ExtPh.seq {lo1 hi1 lo2 hi2 : Nat} {a b c : Cfg} (h : hi1 ≤ lo2)
    (h1 : ExtPh lo1 hi1 a b) (h2 : ExtPh lo2 hi2 b c) (hl : lo1 ≤ lo2) (hh : hi1 ≤ hi2) :
    ExtPh lo1 hi2 a c := by
  obtain ⟨es1, hl1, hs1, hb1⟩ := h1
  obtain ⟨es2, hl2, hs2, hb2⟩ := h2
  refine ⟨es1 ++ es2, by rw [hl2, hl1, List.append_assoc], ?_, List.forall_mem_append.2
    ⟨fun e he => ⟨(hb1 e he).1, Nat.le_trans (hb1 e he).2 hh⟩,
     fun e he => ⟨Nat.le_trans hl (hb2 e he).1, (hb2 e he).2⟩⟩⟩
  rw [List.pairwise_map] at hs1 hs2 ⊢
  exact List.pairwise_append.2
    ⟨hs1, hs2, fun e he e' he' => Nat.le_trans (hb1 e he).2 (Nat.le_trans h (hb2 e' he').1)⟩

theorem phBind {lo1 hi1 lo2 hi2 : Nat} {α β} {x : EM α} {f : α → EM β}
    (h : hi1 ≤ lo2) (hl : lo1 ≤ lo2) (hh : hi1 ≤ hi2)
    (hx : RespPh lo1 hi1 x) (hf : ∀ a, RespPh lo2 hi2 (f a)) : RespPh lo1 hi2 (x >>= f) :=
  -- `RespPh lo hi` unfolds to `Resp (ExtPh lo hi)`
  Resp.seq (S := ExtPh lo1 hi1) (T := ExtPh lo2 hi2) (fun _ _ _ h1 h2 => ExtPh.seq h h1 h2 hl hh)
    (fun _ b h1 => ExtPh.seq h h1 (.refl lo2 hi2 b) hl hh) hx hf

theorem phPure {lo hi : Nat} {α} (a : α) : RespPh lo hi (pure a : EM α) := fun c => ExtPh.refl lo hi c

/-- a part of rank `r`, then the rest in the ranks after it (phases and assignment are numbered consecutively) -/
theorem phNext {r hi : Nat} {α β} {x : EM α} {f : α → EM β}
    (hx : RespPh r r x) (h : r ≤ hi) (hf : ∀ a, RespPh (r + 1) hi (f a)) : RespPh r hi (x >>= f) :=
  phBind (Nat.le_succ r) (Nat.le_succ r) h hx hf

def LogAll (P : Entry → Prop) (c c' : Cfg) : Prop := ∃ es, c'.log = c.log ++ es ∧ ∀ e ∈ es, P e

theorem LogAll.lift (P : Entry → Prop) : Lift (LogAll P) (fun _ e => P e) (fun r => r = .none) nestedRtc :=
  .rtc (fun _ => ⟨[], by simp⟩)
    (fun _ _ _ ⟨es1, h1, p1⟩ ⟨es2, h2, p2⟩ =>
      ⟨es1 ++ es2, by simp [h2, h1], List.forall_mem_append.2 ⟨p1, p2⟩⟩)
    (fun _ es _ h => ⟨es, rfl, h⟩) (fun _ _ => ⟨[], by simp⟩)

theorem ExtPh.of_logAll {r : Nat} {c c' : Cfg} (h : LogAll (fun e => e.rank = r) c c') : ExtPh r r c c' := by
  obtain ⟨es, hl, hp⟩ := h
  exact ⟨es, hl, List.pairwise_le_of_const hp, fun e he => by
    rw [hp e he]; exact ⟨Nat.le_refl _, Nat.le_refl _⟩⟩

theorem entryOk_rank (HR : Res → Prop) (x : Ctx) (ph : Phase) (cb : CbId) :
    EntryOk (fun _ e => e.rank = ph.rank) HR x ph cb := fun _ => ⟨rfl, fun _ _ => rfl, fun _ => rfl⟩

theorem runCb_ph (m : Machine) (x : Ctx) (ph : Phase) (cb : CbId) :
    RespPh ph.rank ph.rank (runCb nestedRtc m x ph cb) := fun c =>
  .of_logAll (runCb_lift (LogAll.lift _) m x ph cb (entryOk_rank _ x ph cb) c)

theorem runGroup_ph (m : Machine) (x : Ctx) (ph : Phase) (cs : List CbId) :
    RespPh ph.rank ph.rank (runGroup nestedRtc m x ph cs) := fun c =>
  .of_logAll (runGroup_lift (LogAll.lift _) m x ph cs (fun cb _ => entryOk_rank _ x ph cb) c)

theorem runConds_ph (m : Machine) (x : Ctx) (cs : List (CbId × Bool)) :
    RespPh 1 1 (runConds nestedRtc m x cs) := fun c =>
  .of_logAll (runConds_lift (LogAll.lift _) m x cs (fun p _ => entryOk_rank _ x .cond p.1) c)

theorem setState_ph (t : Trigger) (v : Val) : RespPh 5 5 (setState t v) := fun _ =>
  .of_logAll ⟨[.setState t.tid v], rfl, List.forall_mem_singleton.2 rfl⟩

theorem activatePre_ph (m : Machine) (t : Trigger) (tr : Transn) : RespPh 0 4 (activatePre nestedRtc m t tr) := by
  unfold activatePre
  refine phNext (runGroup_ph m _ .validators _) (by decide) fun _ => ?_
  refine phNext (runConds_ph m _ _) (by decide) fun ok => Resp.ite (phPure _) ?_
  exact phNext (runGroup_ph m _ .before _) (by decide) fun _ =>
    phNext (runGroup_ph m _ .exit _) (by decide) fun _ =>
    phNext (runGroup_ph m _ .on _) (by decide) fun _ => phPure _

theorem activatePost_ph (m : Machine) (t : Trigger) (tr : Transn) : RespPh 5 7 (activatePost nestedRtc m t tr) := by
  unfold activatePost
  exact phNext (setState_ph t _) (by decide) fun _ =>
    phNext (runGroup_ph m _ .enter _) (by decide) fun _ =>
    phNext (runGroup_ph m _ .after _) (by decide) fun _ => phPure _

/-- **C02 (phase order).** The entries one activation appends are ordered
validators ≤ cond ≤ before ≤ exit ≤ on ≤ setState ≤ enter ≤ after, whatever the callbacks do. -/
theorem C02_phase_order (m : Machine) (t : Trigger) (tr : Transn) : RespPh 0 7 (activate nestedRtc m t tr) := by
  unfold activate
  refine phBind (lo2 := 5) (by decide) (by decide) (by decide) (activatePre_ph m t tr) fun r => ?_
  cases r with
  | none => exact phPure _
  | some rs => exact phBind (lo2 := 7) (by decide) (by decide) (by decide) (activatePost_ph m t tr) fun _ => phPure _

/-- the shape of every entry an activation of `tr` under trigger `t` may append -/
def ActEntry (m : Machine) (t : Trigger) (tr : Transn) : Entry → Prop
  | .cbBegin tid ph cb _ ev src tgt =>
      tid = t.tid ∧ ev = t.event ∧ src = some tr.source ∧ tgt = tr.target ∧ cb ∈ groupCbs m t.event tr ph
  | .sendRet tid ph cb r => tid = t.tid ∧ cb ∈ groupCbs m t.event tr ph ∧ r = .none
  | .cbEnd tid ph cb _ => tid = t.tid ∧ cb ∈ groupCbs m t.event tr ph
  | .setState tid v => tid = t.tid ∧ v = stateVal m tr.target

/-- **C02 (entries).** Every entry appended by an activation is a callback of the right group
of this transition (or the assignment of the target value), for this trigger and event. -/
theorem C02_entries (m : Machine) (t : Trigger) (tr : Transn) :
    Resp (LogAll (ActEntry m t tr)) (activate nestedRtc m t tr) :=
  activate_lift (LogAll.lift _) m t tr
    (fun _ _ hcb _ => ⟨⟨rfl, rfl, rfl, rfl, hcb⟩, fun _ hr => ⟨rfl, hcb, hr⟩, fun _ => ⟨rfl, hcb⟩⟩)
    (fun _ => ⟨[.setState t.tid (stateVal m tr.target)], rfl, List.forall_mem_singleton.2 ⟨rfl, rfl⟩⟩)

/-- internal transitions run no exit and no enter callbacks -/
theorem C02_internal_no_exit_enter (m : Machine) (ev : EventId) (tr : Transn) (h : tr.internal = true) :
    groupCbs m ev tr .exit = [] ∧ groupCbs m ev tr .enter = [] := by
  simp [groupCbs, h]

/-- event-named callbacks (`before_<e>`, `on_<e>`, `after_<e>`) are in a group only for their event -/
theorem C02_event_scoped (ev : EventId) (l : List CbSpec) (s : CbSpec) (e : EventId)
    (hs : s.only = some e) (hne : e ≠ ev) (huniq : ∀ s' ∈ l, s'.id = s.id → s' = s) :
    s.id ∉ applicable ev l := by
  intro hmem
  obtain ⟨s', hs', hid, ho⟩ := (mem_applicable ev l s.id).1 hmem
  rw [huniq s' hs' hid, hs] at ho
  rcases ho with ho | ho
  · cases ho
  · exact hne (Option.some.inj ho)

/-- a callback that starts is shown `v` as the current state -/
def seenOk (v : Option Val) : Entry → Prop
  | .cbBegin _ _ _ seen .. => seen = v
  | _ => True

def View (c c' : Cfg) : Prop :=
  c'.cur = c.cur ∧ ∃ es, c'.log = c.log ++ es ∧ ∀ e ∈ es, seenOk c.cur e

-- `View c c'` unfolds to `c'.cur = c.cur ∧ LogAll (seenOk c.cur) c c'`
theorem View.lift : Lift View (fun c e => seenOk c.cur e) (· = .none) nestedRtc :=
  .rtc (fun c => ⟨rfl, (LogAll.lift _).refl c⟩)
    (fun a b c ⟨k1, l1⟩ ⟨k2, l2⟩ => ⟨k2.trans k1, (LogAll.lift _).trans a b c l1 (k1 ▸ l2)⟩)
    (fun c es n h => ⟨rfl, (LogAll.lift _).log c es n h⟩) (fun e c => ⟨rfl, ((LogAll.lift _).handler e c).1⟩)

theorem entryOk_view (HR : Res → Prop) (x : Ctx) (ph : Phase) (cb : CbId) :
    EntryOk (fun c e => seenOk c.cur e) HR x ph cb :=
  fun _ => ⟨rfl, fun _ _ => trivial, fun _ => trivial⟩

/-- **C02 (view, first half).** Validators, guards, `before`, `exit` and `on` callbacks all see the
state the activation started in — the source — as the current state. -/
theorem C02_view_pre (m : Machine) (t : Trigger) (tr : Transn) : Resp View (activatePre nestedRtc m t tr) :=
  activatePre_lift View.lift m t tr fun ph cb _ => entryOk_view _ _ ph cb

/-- **C02 (view, second half).** After the assignment, `enter` and `after` callbacks all see the
target as the current state. -/
theorem C02_view_post (m : Machine) (t : Trigger) (tr : Transn) (c : Cfg) :
    ∃ es, (activatePost nestedRtc m t tr c).1.log = c.log ++ .setState t.tid (stateVal m tr.target) :: es ∧
      ∀ e ∈ es, seenOk (some (stateVal m tr.target)) e := by
  obtain ⟨_, es, hl, hp⟩ :=
    activatePost_after View.lift m t tr (fun ph cb _ => entryOk_view _ _ ph cb) c
  exact ⟨es, hl.trans (List.append_assoc c.log [_] es), hp⟩

/-- `ActEntry` for the initial activation into `s`: no source, the `enter` group only -/
def InitEntry (m : Machine) (t : Trigger) (s : StateId) : Entry → Prop
  | .cbBegin tid ph cb _ ev src tgt =>
      tid = t.tid ∧ ph = .enter ∧ ev = t.event ∧ src = none ∧ tgt = s ∧ cb ∈ (stateDef m s).enter
  | .sendRet tid ph cb r => tid = t.tid ∧ ph = .enter ∧ cb ∈ (stateDef m s).enter ∧ r = .none
  | .cbEnd tid ph cb _ => tid = t.tid ∧ ph = .enter ∧ cb ∈ (stateDef m s).enter
  | .setState tid v => tid = t.tid ∧ v = stateVal m s

/-- **C02 (initial activation).** Only the assignment of the start state's value and that state's
enter callbacks, under the trigger's event (`__initial__`), with no source. -/
theorem C02_initial (m : Machine) (t : Trigger) (s : StateId) (hs : initialTarget m = .ok s) :
    Resp (LogAll (InitEntry m t s)) (activateInitial nestedRtc m t) :=
  activateInitial_lift (LogAll.lift _) m t hs
    (fun _ hcb _ =>
      ⟨⟨rfl, rfl, rfl, rfl, rfl, hcb⟩, fun _ hr => ⟨rfl, rfl, hcb, hr⟩, fun _ => ⟨rfl, rfl, hcb⟩⟩)
    (fun _ => ⟨[.setState t.tid (stateVal m s)], rfl, List.forall_mem_singleton.2 ⟨rfl, rfl⟩⟩)

/-! Both processing modes: when callbacks send no events the theorems above hold for every handler, in particular the
depth-first `sendNR m fuel` of `rtc=False`. (With nested sends under `rtc=False` the nested event's entries lie
*inside* the sending callback: the phase order is then a statement about the entries of one trigger id; the
correspondence check (DESIGN.md §5) covers it.) -/

theorem C02_phase_order_any {m : Machine} (hs : NoSends m) (h : Nested) (t : Trigger) (tr : Transn) :
    RespPh 0 7 (activate h m t tr) := by
  rw [activate_any (hs.at t) h]; exact C02_phase_order m t tr

theorem C02_entries_any {m : Machine} (hs : NoSends m) (h : Nested) (t : Trigger) (tr : Transn) :
    Resp (LogAll (ActEntry m t tr)) (activate h m t tr) := by
  rw [activate_any (hs.at t) h]; exact C02_entries m t tr

theorem C02_view_pre_any {m : Machine} (hs : NoSends m) (h : Nested) (t : Trigger) (tr : Transn) :
    Resp View (activatePre h m t tr) := by
  rw [activatePre_any (hs.at t) h]; exact C02_view_pre m t tr

theorem C02_view_post_any {m : Machine} (hs : NoSends m) (h : Nested) (t : Trigger) (tr : Transn) (c : Cfg) :
    ∃ es, (activatePost h m t tr c).1.log = c.log ++ .setState t.tid (stateVal m tr.target) :: es ∧
      ∀ e ∈ es, seenOk (some (stateVal m tr.target)) e := by
  rw [activatePost_any (hs.at t) h]; exact C02_view_post m t tr c

theorem C02_initial_any {m : Machine} (hs : NoSends m) (h : Nested) (t : Trigger) (s : StateId)
    (hi : initialTarget m = .ok s) : Resp (LogAll (InitEntry m t s)) (activateInitial h m t) := by
  rw [activateInitial_any (hs.at t) h]; exact C02_initial m t s hi

end SMV
