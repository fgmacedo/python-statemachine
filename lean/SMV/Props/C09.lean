import SMV.Lemmas.Bfs
/-!
# C09 — Class-definition validation accepts exactly the well-formed machines

Model: `SMV.Validate.check` (`SMV/Model/Validate.lean`), the metaclass checks in the code's order
with `visit_connected_states` as a worklist loop. Specification (this file): `HasTransition`,
`Reach`, `WellFormed`, `Trap`, `NoPath`, all written from the English statement, without reference
to the worklist loop or to the order of the checks. The theorems hold for every definition: any
number of states, any transition multiset, indices in or out of range.

The clauses of `WellFormed` are, one by one, what the six raising tests of `check` compute
(`wellFormed_iff`); the order of the tests enters only through `check_of_wellFormed` (all six pass:
`check` is its two strict-or-warn tests) and `wellFormed_of_accepts` (a verdict `ok` got past all six).

That `check` is what the library does rests on two things, neither of them an assumption of this
file: `runCheck_check` (`Src/TieCheck.lean`) proves that the scripts derived from the source of
`_check`, the `_check_*` methods and `visit_connected_states` mean `check`; and the correspondence
check (`harness/props/c09.py`) enumerates small definitions exhaustively against the real metaclass
and against an independent Warshall-closure oracle. Trusted: the derivation of the scripts from the
source, and that a `ClassDef` is what the metaclass sees of a class body. One deliberate reading of
the statement: a class with neither states nor events is accepted unchecked (`C09_abstract`; it is
the library's notion of an abstract base and cannot be instantiated), so `C09_iff` is stated for
classes that declare something.
-/
namespace SMV.Validate
open ClassDef

def TSpec.internal : TSpec → Bool
  | .edge _ _ i => i
  | .any _ i _ => i

/-- state `a` has a transition to state `b`: an explicit `a.to(b)` was written (bound to an event
or not), or `b.from_.any()` was bound to an event when `a`, non-final, was already declared -/
def HasTransition (d : ClassDef) (a b : Nat) : Prop :=
  (∃ i, TSpec.edge a b i ∈ d.specs) ∨
  (∃ ev ∈ d.events, ∃ i u, TSpec.any b i u ∈ ev ∧ a < u ∧ a < d.n ∧ d.isFinal a = false)

/-- reflexive-transitive closure of "has a transition to" -/
inductive Reach (d : ClassDef) : Nat → Nat → Prop
  | refl (a) : Reach d a a
  | step {a b c} : Reach d a b → HasTransition d b c → Reach d a c

/-- "at least one state and one event, exactly one initial state, no transition leaving a final
state, internal transitions only as self-transitions, every state reachable from the initial one" -/
structure WellFormed (d : ClassDef) : Prop where
  has_state : d.states ≠ []
  has_event : d.events ≠ []
  one_initial : ∃ i, d.isInitial i = true ∧ ∀ j, d.isInitial j = true → j = i
  final_no_out : ∀ a b, d.isFinal a = true → ¬ HasTransition d a b
  internal_self : ∀ sp ∈ d.specs, sp.internal = true → ∃ a, sp = .edge a a true
  all_reachable : ∀ i j, d.isInitial i = true → j < d.n → Reach d i j

/-- a declared non-final state without outgoing transitions -/
def Trap (d : ClassDef) (i : Nat) : Prop :=
  i < d.n ∧ d.isFinal i = false ∧ ∀ b, ¬ HasTransition d i b

/-- (when final states exist) a declared non-final state without a path to a final state -/
def NoPath (d : ClassDef) (i : Nat) : Prop :=
  (∃ f, d.isFinal f = true) ∧ i < d.n ∧ d.isFinal i = false ∧ ∀ f, Reach d i f → d.isFinal f = false

/-- neither states nor events: the metaclass skips validation (base classes such as
`StateMachine` itself); such a class cannot be instantiated -/
def Abstract (d : ClassDef) : Prop := d.states = [] ∧ d.events = []

/-- the class statement completes -/
def accepts (d : ClassDef) : Prop := ∃ a ws, check d = .ok a ws
/-- the class statement raises `InvalidDefinition` -/
def rejects (d : ClassDef) : Prop := ∃ r l, check d = .invalid r l

theorem accepts_or_rejects (d : ClassDef) : accepts d ∨ rejects d := by
  unfold accepts rejects
  cases check d with
  | invalid r l => exact Or.inr ⟨r, l, rfl⟩
  | ok a ws => exact Or.inl ⟨a, ws, rfl⟩

theorem not_accepts_iff_rejects (d : ClassDef) : ¬ accepts d ↔ rejects d :=
  ⟨(accepts_or_rejects d).resolve_left, fun ⟨_, _, hr⟩ ⟨_, _, ha⟩ => nomatch hr.symm.trans ha⟩

theorem isFinal_iff {d : ClassDef} {i : Nat} :
    d.isFinal i = true ↔ ∃ s, d.states[i]? = some s ∧ s.final = true := by
  unfold isFinal; cases d.states[i]? <;> simp

theorem isInitial_iff {d : ClassDef} {i : Nat} :
    d.isInitial i = true ↔ ∃ s, d.states[i]? = some s ∧ s.initial = true := by
  unfold isInitial; cases d.states[i]? <;> simp

theorem isFinal_lt {d : ClassDef} {i : Nat} (h : d.isFinal i = true) : i < d.n := by
  obtain ⟨_, hs, _⟩ := isFinal_iff.mp h
  exact (List.getElem?_eq_some_iff.mp hs).1

theorem isInitial_lt {d : ClassDef} {i : Nat} (h : d.isInitial i = true) : i < d.n := by
  obtain ⟨_, hs, _⟩ := isInitial_iff.mp h
  exact (List.getElem?_eq_some_iff.mp hs).1

theorem mem_expandAny (d : ClassDef) (a b t u : Nat) :
    (⟨a, b⟩ : Edge) ∈ d.expandAny t u ↔ b = t ∧ a < u ∧ a < d.n ∧ d.isFinal a = false := by
  simp only [expandAny, List.mem_map, List.mem_filter, List.mem_range, Edge.mk.injEq,
    Bool.not_eq_true', Nat.lt_min]
  constructor
  · rintro ⟨_, ⟨⟨h1, h2⟩, hf⟩, rfl, rfl⟩
    exact ⟨rfl, h1, h2, hf⟩
  · rintro ⟨rfl, h1, h2, hf⟩
    exact ⟨a, ⟨⟨h1, h2⟩, hf⟩, rfl, rfl⟩

theorem mem_edges (d : ClassDef) (a b : Nat) : (⟨a, b⟩ : Edge) ∈ d.edges ↔ HasTransition d a b := by
  simp only [edges, HasTransition, specs, List.mem_append, ← List.flatMap_def, List.mem_flatMap,
    List.mem_flatten]
  constructor
  · rintro (⟨sp, ⟨ev, hev, hsp⟩, h⟩ | ⟨sp, hsp, h⟩)
    · cases sp with
      | edge s t i =>
        cases List.mem_singleton.mp h
        exact .inl ⟨i, .inl ⟨ev, hev, hsp⟩⟩
      | any t i u =>
        obtain ⟨rfl, h'⟩ := (mem_expandAny d a b t u).mp h
        exact .inr ⟨ev, hev, i, u, hsp, h'⟩
    · cases sp with
      | edge s t i =>
        cases List.mem_singleton.mp h
        exact .inl ⟨i, .inr hsp⟩
      | any t i u => nomatch h
  · rintro (⟨i, ⟨ev, hev, hsp⟩ | hsp⟩ | ⟨ev, hev, i, u, hsp, h⟩)
    · exact .inl ⟨_, ⟨ev, hev, hsp⟩, List.mem_singleton_self _⟩
    · exact .inr ⟨_, hsp, List.mem_singleton_self _⟩
    · exact .inl ⟨_, ⟨ev, hev, hsp⟩, (mem_expandAny d a b b u).mpr ⟨rfl, h⟩⟩

theorem mem_succ (d : ClassDef) (a b : Nat) : b ∈ d.succ a ↔ HasTransition d a b := by
  rw [← mem_edges]
  unfold succ
  simp only [List.mem_map, List.mem_filter, beq_iff_eq]
  constructor
  · rintro ⟨⟨s, t⟩, ⟨he, rfl⟩, rfl⟩; exact he
  · intro h; exact ⟨⟨a, b⟩, ⟨h, rfl⟩, rfl⟩

theorem edges_any_src (d : ClassDef) (i : Nat) :
    d.edges.any (fun e => e.src == i) = true ↔ ∃ b, HasTransition d i b := by
  simp only [List.any_eq_true, beq_iff_eq]
  constructor
  · rintro ⟨⟨s, t⟩, he, rfl⟩; exact ⟨t, (mem_edges d s t).mp he⟩
  · rintro ⟨b, hb⟩; exact ⟨⟨i, b⟩, (mem_edges d i b).mpr hb, rfl⟩

/-- **`visit_connected_states` visits exactly the states reachable from its start**, for every graph:
the fuel `|edges| + 1` given by `bfs` never runs out, because the visited list is duplicate-free and
contained in `{s} ∪ targets`. -/
theorem bfs_sound_complete (d : ClassDef) (s t : Nat) : t ∈ d.bfs s ↔ Reach d s t := by
  obtain ⟨hs, hcl, hleast⟩ := go_least_closed d.succ (s :: d.edges.map (·.tgt))
    (fun a b hb => by
      obtain ⟨e, he, hb⟩ := List.mem_map.mp hb
      exact List.mem_cons_of_mem _ (List.mem_map.mpr ⟨e, (List.mem_filter.mp he).1, hb⟩))
    s List.mem_cons_self (d.edges.length + 1) (by simp)
  constructor
  · exact hleast (Reach d s) (.refl s) (fun a ha b hb => ha.step ((mem_succ d a b).mp hb)) t
  · intro h
    induction h with
    | refl => exact hs
    | step _ hbc ih => exact hcl _ ih _ ((mem_succ d _ _).mpr hbc)

theorem constructible_iff (sp : TSpec) :
    sp.constructible = true ↔ (sp.internal = true → ∃ a, sp = .edge a a true) := by
  cases sp with
  | edge s t i =>
    cases i with
    | false => simp [TSpec.constructible, TSpec.internal]
    | true => simpa [TSpec.constructible, TSpec.internal] using eq_comm  -- `simp` leaves `s = t ↔ t = s`
  | any t i u => cases i <;> simp [TSpec.constructible, TSpec.internal]

theorem specs_constructible_iff (d : ClassDef) :
    d.specs.all TSpec.constructible = true ↔
      ∀ sp ∈ d.specs, sp.internal = true → ∃ a, sp = .edge a a true := by
  simp only [List.all_eq_true, constructible_iff]

theorem mem_initials (d : ClassDef) (i : Nat) : i ∈ d.initials ↔ d.isInitial i = true := by
  unfold initials
  simp only [List.mem_filter, List.mem_range, and_iff_right_iff_imp]
  exact isInitial_lt

theorem initials_length_one_iff (d : ClassDef) :
    d.initials.length = 1 ↔ ∃ i, d.isInitial i = true ∧ ∀ j, d.isInitial j = true → j = i := by
  have hnd : d.initials.Nodup := List.filter_sublist.nodup List.nodup_range
  simp only [← mem_initials]
  constructor
  · intro h
    obtain ⟨i, hi⟩ := List.length_eq_one_iff.mp h
    exact ⟨i, by simp [hi], by simp [hi]⟩
  · rintro ⟨i, hi, hu⟩
    -- all members equal `i`, so the list is `i` repeated; without duplicates that is at most once
    rw [List.eq_replicate_iff.mpr ⟨rfl, hu⟩] at hnd
    exact Nat.le_antisymm (List.nodup_replicate.mp hnd) (List.length_pos_of_mem hi)

theorem isInitial_initIdx {d : ClassDef} {i : Nat} (hi : d.isInitial i = true) :
    d.isInitial d.initIdx = true := by
  obtain ⟨s, hs, hsi⟩ := isInitial_iff.mp hi
  have hlt : d.initIdx < d.states.length :=
    List.findIdx_lt_length_of_exists ⟨s, List.mem_of_getElem? hs, hsi⟩
  exact isInitial_iff.mpr ⟨_, List.getElem?_eq_getElem hlt, List.findIdx_getElem (w := hlt)⟩

theorem finalsWithTransitions_nil_iff (d : ClassDef) :
    d.finalsWithTransitions = [] ↔ ∀ a b, d.isFinal a = true → ¬ HasTransition d a b := by
  unfold finalsWithTransitions
  simp only [List.filter_eq_nil_iff, List.mem_range, Bool.and_eq_true, edges_any_src, not_and,
    not_exists]
  exact ⟨fun h a b hf => h a (isFinal_lt hf) hf b, fun h a _ hf b => h a b hf⟩

theorem disconnected_nil_iff (d : ClassDef) :
    d.disconnected = [] ↔ ∀ j, j < d.n → Reach d d.initIdx j := by
  unfold disconnected
  simp only [List.filter_eq_nil_iff, List.mem_range, Bool.not_eq_false,
    List.contains_iff_mem, bfs_sound_complete, Bool.not_eq_eq_eq_not, Bool.not_true]

/-- the states named by the "no outgoing transition" message are exactly the trap states -/
theorem mem_trapStates (d : ClassDef) (i : Nat) : i ∈ d.trapStates ↔ Trap d i := by
  unfold trapStates Trap
  simp only [List.mem_filter, List.mem_range, Bool.and_eq_true, Bool.not_eq_true',
    ← Bool.not_eq_true, edges_any_src, not_exists]

theorem states_any_final (d : ClassDef) :
    d.states.any (·.final) = true ↔ ∃ f, d.isFinal f = true := by
  rw [List.any_eq_true]
  constructor
  · rintro ⟨s, hs, hf⟩
    obtain ⟨i, hi⟩ := List.mem_iff_getElem?.mp hs
    exact ⟨i, isFinal_iff.mpr ⟨s, hi, hf⟩⟩
  · rintro ⟨i, h⟩
    obtain ⟨s, hs, hf⟩ := isFinal_iff.mp h
    exact ⟨s, List.mem_of_getElem? hs, hf⟩

/-- the states named by the "no path to a final state" message are exactly those without one -/
theorem mem_noPathToFinal (d : ClassDef) (i : Nat) : i ∈ d.noPathToFinal ↔ NoPath d i := by
  unfold noPathToFinal NoPath
  rw [← states_any_final]
  split
  · next hany =>
    simp only [hany, true_and, List.mem_filter, List.mem_range, Bool.and_eq_true,
      Bool.not_eq_true', List.any_eq_false, bfs_sound_complete, Bool.not_eq_true]
  · next hany => simp [hany]

theorem wellFormed_iff (d : ClassDef) : WellFormed d ↔
    d.specs.all TSpec.constructible = true ∧ d.states ≠ [] ∧ d.events ≠ [] ∧ d.initials.length = 1 ∧
      d.finalsWithTransitions = [] ∧ d.disconnected = [] := by
  rw [specs_constructible_iff, initials_length_one_iff, finalsWithTransitions_nil_iff,
    disconnected_nil_iff]
  constructor
  · rintro ⟨hs, he, ⟨i, hi, hu⟩, hf, hint, hr⟩
    exact ⟨hint, hs, he, ⟨i, hi, hu⟩, hf, fun j => hr _ j (isInitial_initIdx hi)⟩
  · rintro ⟨hint, hs, he, ⟨i, hi, hu⟩, hf, hr⟩
    refine ⟨hs, he, ⟨i, hi, hu⟩, hf, hint, fun i' j hi' => ?_⟩
    -- the only initial state is the first one
    rw [hu i' hi', ← hu _ (isInitial_initIdx hi)]
    exact hr j

theorem no_issue_iff (d : ClassDef) :
    (∀ i, ¬ Trap d i ∧ ¬ NoPath d i) ↔ d.trapStates = [] ∧ d.noPathToFinal = [] := by
  simp only [← mem_trapStates, ← mem_noPathToFinal, List.eq_nil_iff_forall_not_mem]
  exact forall_and

theorem strictStep_trap_noPath (s : Bool) (T N : List Nat) :
    strictStep s .trap T (strictStep s .noPathToFinal N (fun ws => .ok false ws)) [] =
      if s = true then
        if T ≠ [] then .invalid .trap T
        else if N ≠ [] then .invalid .noPathToFinal N
        else .ok false []
      else .ok false ([T, N].filter (fun w => !w.isEmpty)) := by
  cases s <;> cases T <;> cases N <;> rfl

/-- closed form of `check` on every non-abstract definition whose structural clauses hold -/
theorem check_of_wellFormed {d : ClassDef} (hw : WellFormed d) :
    check d =
      if d.strict = true then
        if d.trapStates ≠ [] then .invalid .trap d.trapStates
        else if d.noPathToFinal ≠ [] then .invalid .noPathToFinal d.noPathToFinal
        else .ok false []
      else .ok false ([d.trapStates, d.noPathToFinal].filter (fun w => !w.isEmpty)) := by
  obtain ⟨h1, h2, h3, h4, h5, h6⟩ := (wellFormed_iff d).mp hw
  rw [← List.isEmpty_eq_false_iff] at h2 h3
  rw [← strictStep_trap_noPath]
  simp only [check, h1, h2, h3, h4, h5, h6, Bool.not_true, Bool.false_and, List.isEmpty_nil,
    bne_self_eq_false, Bool.false_eq_true, if_false]

theorem ite_invalid_eq_ok {c : Prop} [Decidable c] {r : Reason} {l : List Nat} {v : Verdict}
    {a : Bool} {ws : List (List Nat)} :
    (if c then Verdict.invalid r l else v) = .ok a ws ↔ ¬c ∧ v = .ok a ws := by
  by_cases h : c <;> simp [h]

theorem wellFormed_of_accepts {d : ClassDef} (hna : ¬ Abstract d) (h : accepts d) : WellFormed d := by
  obtain ⟨a, ws, hc⟩ := h
  have hna' : (d.states.isEmpty && d.events.isEmpty) = false := by simpa [Abstract] using hna
  -- each test of `check` that did not raise gives its clause (`ite_invalid_eq_ok`)
  simp only [check, hna', ite_invalid_eq_ok, Bool.false_eq_true, if_false, Bool.not_eq_true',
    Bool.not_eq_false, bne_eq_false_iff_eq, Bool.not_eq_true, List.isEmpty_eq_false_iff,
    List.isEmpty_iff, ne_eq, Decidable.not_not] at hc
  obtain ⟨h1, h2, h3, h4, h5, h6, -⟩ := hc
  exact (wellFormed_iff d).mpr ⟨h1, h2, h3, h4, h5, h6⟩

/-- **C09 (acceptance).** A class that declares anything at all is accepted iff it is well formed
and — under `strict_states=True` — has neither a trap state nor a state without a path to a
final state. Otherwise (`not_accepts_iff_rejects`) the class statement raises
`InvalidDefinition`. -/
theorem C09_iff (d : ClassDef) (hna : ¬ Abstract d) :
    accepts d ↔ WellFormed d ∧ (d.strict = true → ∀ i, ¬ Trap d i ∧ ¬ NoPath d i) := by
  rw [no_issue_iff]
  constructor
  · intro h
    have hw := wellFormed_of_accepts hna h
    obtain ⟨a, ws, hc⟩ := h
    refine ⟨hw, fun hs => ?_⟩
    rw [check_of_wellFormed hw, if_pos hs] at hc
    simp only [ite_invalid_eq_ok, Decidable.not_not] at hc
    exact ⟨hc.1, hc.2.1⟩
  · rintro ⟨hw, hst⟩
    rw [accepts, check_of_wellFormed hw]
    cases hs : d.strict with
    | false => exact ⟨_, _, rfl⟩
    | true =>
      obtain ⟨ht, hn⟩ := hst hs
      simp [ht, hn]

/-- without `strict_states`: accepted iff well formed -/
theorem C09_iff_nonstrict (d : ClassDef) (hna : ¬ Abstract d) (hs : d.strict = false) :
    accepts d ↔ WellFormed d := by
  rw [C09_iff d hna]; simp [hs]

/-- a class with no states, no events (and no stray transitions) is accepted unchecked as an
abstract base -/
theorem C09_abstract (d : ClassDef) (ha : Abstract d) (hl : d.loose = []) :
    check d = .ok true [] := by
  obtain ⟨h1, h2⟩ := ha
  simp [check, specs, h1, h2, hl]

/-- **C09 (strict_states).** On a well-formed definition: under `strict_states=True` the class
is rejected iff some state is a trap or has no path to a final state; otherwise the class is
accepted and the states named in the warnings are exactly those states (first warning: exactly
the trap states; second: exactly the states without a path to a final state; a warning is
emitted iff its set is non-empty). -/
theorem C09_strict (d : ClassDef) (hw : WellFormed d) :
    (d.strict = true → (rejects d ↔ ∃ i, Trap d i ∨ NoPath d i)) ∧
    (d.strict = false → ∃ ws, check d = .ok false ws ∧
        ws = [d.trapStates, d.noPathToFinal].filter (fun w => !w.isEmpty) ∧
        (∀ i, i ∈ d.trapStates ↔ Trap d i) ∧ (∀ i, i ∈ d.noPathToFinal ↔ NoPath d i) ∧
        (∀ i, (∃ w ∈ ws, i ∈ w) ↔ Trap d i ∨ NoPath d i)) := by
  constructor
  · intro hs
    -- the contrapositive of `C09_iff`
    rw [← not_accepts_iff_rejects, C09_iff d fun h => hw.has_state h.1]
    simp only [hw, hs, true_and, forall_const, Classical.not_forall,
      Classical.not_and_iff_not_or_not, Classical.not_not]
  · intro hs
    refine ⟨_, by rw [check_of_wellFormed hw, if_neg (by simp [hs])], rfl, mem_trapStates d,
      mem_noPathToFinal d, fun i => ?_⟩
    rw [← mem_trapStates, ← mem_noPathToFinal]
    simp only [List.mem_filter, List.mem_cons, List.not_mem_nil, or_false, Bool.not_eq_true',
      List.isEmpty_eq_false_iff]
    -- a list that names a state is not empty, so the filter keeps it
    constructor
    · rintro ⟨w, ⟨rfl | rfl, _⟩, hi⟩
      · exact Or.inl hi
      · exact Or.inr hi
    · rintro (hi | hi)
      · exact ⟨_, ⟨Or.inl rfl, List.ne_nil_of_mem hi⟩, hi⟩
      · exact ⟨_, ⟨Or.inr rfl, List.ne_nil_of_mem hi⟩, hi⟩

/-- which exception: the first failing test, with the states it names (strict mode) -/
theorem C09_strict_reason (d : ClassDef) (hw : WellFormed d) (hs : d.strict = true) :
    (d.trapStates ≠ [] → check d = .invalid .trap d.trapStates) ∧
    (d.trapStates = [] → d.noPathToFinal ≠ [] →
      check d = .invalid .noPathToFinal d.noPathToFinal) := by
  rw [check_of_wellFormed hw, if_pos hs]
  exact ⟨fun h => if_pos h, fun h1 h2 => (if_neg (· h1)).trans (if_pos h2)⟩

/-- traffic light with a final state and a `from_.any()` event: 3 states, a cycle, a self-loop -/
def exOk : ClassDef :=
  { states := [⟨true, false⟩, ⟨false, false⟩, ⟨false, true⟩],
    events := [[.edge 0 1 false, .edge 1 0 false, .edge 1 1 true], [.any 2 false 3]] }

theorem check_exOk : check exOk = .ok false [] := by decide +kernel
example : check exOk = .ok false [] := check_exOk
example : WellFormed exOk :=
  (C09_iff_nonstrict exOk (fun h => nomatch h.1) rfl).mp ⟨false, [], check_exOk⟩
example : Reach exOk 0 2 := (bfs_sound_complete exOk 0 2).mp (by decide)

/-- state 2 is a trap and has no path to the final state 3; state 1 → 3 -/
def exWarn : ClassDef :=
  { states := [⟨true, false⟩, ⟨false, false⟩, ⟨false, false⟩, ⟨false, true⟩],
    events := [[.edge 0 1 false, .edge 0 2 false, .edge 1 3 false]] }

theorem check_exWarn : check exWarn = .ok false [[2], [2]] := by decide +kernel
theorem check_exWarn_strict : check { exWarn with strict := true } = .invalid .trap [2] := by decide +kernel
example : check exWarn = .ok false [[2], [2]] := check_exWarn
example : check { exWarn with strict := true } = .invalid .trap [2] := check_exWarn_strict
/-- the hypothesis of `C09_strict` is satisfiable by a definition with issues -/
example : WellFormed exWarn :=
  (C09_iff_nonstrict exWarn (fun h => nomatch h.1) rfl).mp ⟨false, [[2], [2]], check_exWarn⟩
example : rejects { exWarn with strict := true } := ⟨.trap, [2], check_exWarn_strict⟩
/-- a cycle: states 1 and 2 reach each other but no final state, and neither is a trap -/
example : check { states := [⟨true, false⟩, ⟨false, false⟩, ⟨false, false⟩, ⟨false, true⟩],
                  events := [[.edge 0 1 false, .edge 1 2 false, .edge 2 1 false, .edge 0 3 false]] }
    = .ok false [[1, 2]] := by decide +kernel
example : Trap exWarn 2 := (mem_trapStates exWarn 2).mp (by decide)
example : NoPath exWarn 2 := (mem_noPathToFinal exWarn 2).mp (by decide)

/-- rejected shapes: unreachable state behind a *reversed* edge; self-loop on a final state;
internal non-self transition; two initials; `from_.any()` bound before the last state exists -/
example : check { states := [⟨true, false⟩, ⟨false, false⟩], events := [[.edge 1 0 false, .edge 0 0 false]] }
    = .invalid .unreachable [1] := by decide
example : check { states := [⟨true, false⟩, ⟨false, true⟩], events := [[.edge 0 1 false, .edge 1 1 false]] }
    = .invalid .finalWithTransitions [1] := by decide
example : check { states := [⟨true, false⟩, ⟨false, true⟩], events := [[.edge 0 1 true]] }
    = .invalid .internalNotSelf [] := by decide
example : check { states := [⟨true, false⟩, ⟨true, true⟩], events := [[.edge 0 1 false]] }
    = .invalid .initialCount [0, 1] := by decide
example : check { states := [⟨true, false⟩, ⟨false, false⟩, ⟨false, true⟩],
                  events := [[.any 2 false 1], [.edge 1 2 false]] }
    = .invalid .unreachable [1] := by decide
example : ¬ WellFormed { states := [⟨true, false⟩, ⟨false, false⟩], events := [[.edge 1 0 false, .edge 0 0 false]] } :=
  fun h => absurd ((wellFormed_iff _).mp h).2.2.2.2.2 (by decide)

end SMV.Validate
