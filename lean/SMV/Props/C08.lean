import SMV.Lemmas.ExprGuards
import SMV.Lemmas.ExprLexer
/-!
# C08 — Guards: cond/unless conjunction and Python-faithful boolean expressions

Property text (properties.jsonl): a transition is enabled iff every `cond` entry is truthy and
every `unless` entry is falsy (entries: callables, attributes, properties, boolean expressions);
an expression built from names, `not`/`!`, `and`/`^`, `or`/`v`, parentheses, literals and the six
comparison operators evaluates exactly as Python evaluates it (precedence, left-to-right
short-circuit, current values at every evaluation); expressions that do not parse or that name
something no provider has are rejected with `InvalidDefinition` at instantiation, never when an
event arrives.

How the statement is split (models: `SMV/Model/Expr.lean`, `SMV/Model/Lexer.lean`): text → text (`replace_operators` and
the plain-name fast path: `C08_rewrite_*`, with witnesses for the three lexical defects D8/D9/D22 of the code as found,
`fixed := false`); text → tree is CPython's `ast.parse`, **trusted** (precedence is Python's by construction); tree →
closure tree → value; names → providers (`reduce(custom_and, providers)`); entries → enabled; instantiation.

Everything is for all expressions (any nesting), all environments, all comparison semantics `S`.
The environment is a function, i.e. reading a name has no effect on what later reads *within the
same evaluation* return; across evaluations it is arbitrary (`∀ ρ`).
-/
namespace SMV.GExpr

/-- **C08_eval.** The library's closure tree yields the value Python yields — or fails exactly when Python fails —
and, once the library's re-evaluations of the middle operands of chained comparisons are erased, reads the same names
in the same order (left to right, short-circuit). -/
theorem C08_eval (S : Sem) (ρ : Env) (e : E) :
    (evalLib S ρ false e).val = (evalPy S ρ e).val ∧
    firstReads (evalLib S ρ false e).reads = (evalPy S ρ e).reads :=
  eval_lib_py S ρ e

/-- the truth value the guard machinery looks at (`bool(value)`) -/
theorem C08_truthy (S : Sem) (ρ : Env) (e : E) :
    (evalLib S ρ false e).val.map truthy = (evalPy S ρ e).val.map truthy := by
  rw [(C08_eval S ρ e).1]

/-- non-vacuity: `a or b and c` with a = 1 (truthy), c falsy: value is `a`'s value, only `a` is read -/
example :
    let ρ : Env := fun n => if n = 0 then .int 1 else .int 0
    let e := E.or (.name 0) (.and (.name 1) (.name 2))
    (evalLib pySem ρ false e).val = some (.int 1) ∧ (evalPy pySem ρ e).reads = [0] := by decide

/-- `0 < x < 2 < y` re-reads `x` in the library (flag `true`) but the first reads agree -/
example :
    let ρ : Env := fun _ => .int 1
    let e := E.cmp (.const (.int 0)) (.more .lt (.name 7) (.more .lt (.const (.int 2)) (.last .lt (.name 8))))
    (evalLib pySem ρ false e).reads = [(7, false), (7, true), (8, false)] ∧
    (evalPy pySem ρ e).reads = [7, 8] ∧ (evalLib pySem ρ false e).val = some (.bool false) := by decide

/-- a comparison that raises (`None < 1`) raises in both, after the same reads -/
example :
    let ρ : Env := fun _ => .none
    let e := E.and (.not (.name 1)) (.cmp (.name 2) (.last .lt (.const (.int 1))))
    (evalLib pySem ρ false e).val = none ∧ (evalPy pySem ρ e).val = none ∧
    (evalPy pySem ρ e).reads = [1, 2] := by decide

/-- **C08_boolop_fold.** Python evaluates `a and b and c` (one n-ary `BoolOp`) left to right;
`build_expression` folds it to the left, `(a and b) and c`. Both nestings have the same value and
reads, so the fold direction is immaterial (same for `or`). -/
theorem C08_boolop_fold (S : Sem) (ρ : Env) (a b c : E) :
    evalPy S ρ (.and (.and a b) c) = evalPy S ρ (.and a (.and b c)) ∧
    evalPy S ρ (.or (.or a b) c) = evalPy S ρ (.or a (.or b c)) := by
  cases ha : (evalPy S ρ a).val with
  | none => simp [evalPy, ha]
  | some va =>
    cases hb : (evalPy S ρ b).val with
    | none => cases hta : truthy va <;> simp [evalPy, ha, hb, hta]
    | some vb => cases hta : truthy va <;> cases htb : truthy vb <;> simp [evalPy, ha, hb, hta, htb]

/-- **C08_providers.** A name found on several providers `[s₁ … s_k]` (in the order machine,
model, listeners) is worth `s₁ and s₂ and … and s_k` as Python evaluates it: the first falsy
value, else the last; the providers are read in that order up to the first falsy one. -/
theorem C08_providers (S : Sem) (ρ : Env) (ps : List Nat) :
    (evalLib S ρ false (provExpr ps)).val = some (andAll ρ ps) ∧
    firstReads (evalLib S ρ false (provExpr ps)).reads = provReads ρ ps := by
  rw [evalLib_provExpr]
  exact ⟨rfl, firstReads_map_false _⟩

example :
    let ρ : Env := fun n => if n = 11 then .str "" else .int 5
    andAll ρ [10, 11, 12] = .str "" ∧ provReads ρ [10, 11, 12] = [10, 11] ∧
    andAll ρ [10, 12] = .int 5 := by decide

/-- **C08_names_resolved.** The closure tree built over provider slots evaluates the *declared*
expression as Python would, in the environment where each name is worth the conjunction of its
providers; reads are the providers' slots in that order. -/
theorem C08_names_resolved (S : Sem) (prov : Nat → List Nat) (ρ : Env) (e : E) :
    (evalLib S ρ false (subst prov e)).val = (evalPy S (envOf prov ρ) e).val ∧
    firstReads (evalLib S ρ false (subst prov e)).reads =
      (evalPy S (envOf prov ρ) e).reads.flatMap (fun n => provReads ρ (prov n)) := by
  have h1 := evalLib_subst S prov ρ false e
  have h2 := C08_eval S (envOf prov ρ) e
  rw [h1.1, h1.2, firstReads_expand, h2.1, h2.2]
  exact ⟨rfl, rfl⟩

/-- **C08_guard_conj.** `CallbacksExecutor.all` over entries with expected values:
(1) the result is "enabled" iff every entry, evaluated as Python evaluates it, has the expected
truth value (`cond`: truthy, `unless`: falsy);
(2) it is "not enabled" iff some entry has the opposite truth value and all entries before it
pass (so an exception in a later entry is never reached);
(3) the entries are evaluated left to right up to and including the first one that does not pass
(wrong truth value or exception), each reading what Python reads. -/
theorem C08_guard_conj (S : Sem) (ρ : Env) (gs : List Guard) :
    ((allLib S ρ gs).val = some true ↔ ∀ g ∈ gs, passes S ρ g = true) ∧
    ((allLib S ρ gs).val = some false ↔
      ∃ pre g post, gs = pre ++ g :: post ∧ (∀ p ∈ pre, passes S ρ p = true) ∧
        (evalPy S ρ g.e).val.map truthy = some (!g.expected)) ∧
    firstReads (allLib S ρ gs).reads =
      (untilFail S ρ gs).flatMap (fun g => (evalPy S ρ g.e).reads) := by
  have h := all_lib_py S ρ gs
  rw [h.1, h.2]
  exact ⟨allPy_true_iff S ρ gs, allPy_false_iff S ρ gs, allPy_reads S ρ gs⟩

/-- **C08_transition_enabled.** `Transition(cond=cs, unless=us)`: enabled iff every `cond` entry is
truthy and every `unless` entry is falsy (each evaluated as Python evaluates it). -/
theorem C08_transition_enabled (S : Sem) (ρ : Env) (cs us : List E) :
    (allLib S ρ (guardsOf cs us)).val = some true ↔
      (∀ c ∈ cs, (evalPy S ρ c).val.map truthy = some true) ∧
      (∀ u ∈ us, (evalPy S ρ u).val.map truthy = some false) := by
  rw [(C08_guard_conj S ρ _).1, guardsOf, List.forall_mem_append, List.forall_mem_map, List.forall_mem_map]
  simp only [passes, beq_iff_eq]

/-- non-vacuity: cond = [x, y > 1], unless = [z]; x = "a", y = 2, z = [] → enabled; with z = [None]
not enabled and all three entries were evaluated; with x = "" only x is read. -/
example :
    let gs := guardsOf [.name 0, .cmp (.name 1) (.last .gt (.const (.int 1)))] [.name 2]
    let ρ₁ : Env := fun n => if n = 0 then .str "a" else if n = 1 then .int 2 else .list 0
    let ρ₂ : Env := fun n => if n = 0 then .str "a" else if n = 1 then .int 2 else .list 1
    let ρ₃ : Env := fun n => if n = 0 then .str "" else if n = 1 then .int 2 else .list 0
    (allLib pySem ρ₁ gs).val = some true ∧
    (allLib pySem ρ₂ gs).val = some false ∧ firstReads (allLib pySem ρ₂ gs).reads = [0, 1, 2] ∧
    (allLib pySem ρ₃ gs).val = some false ∧ firstReads (allLib pySem ρ₃ gs).reads = [0] := by decide

/-- **C08_rewrite_tokens.** On token lists the rewrite maps `!`, `^`, `v` to `not`, `and`, `or`
position by position and is the identity on every other token — in particular on `!=` and on
identifiers that merely contain `v` (or `not`/`and`/`or`) as a substring. -/
theorem C08_rewrite_tokens (ts : List Tok) :
    (rewriteToks ts).length = ts.length ∧
    (∀ i (h : i < ts.length),
      (ts[i] = .bang → (rewriteToks ts)[i]? = some .kwNot) ∧
      (ts[i] = .caret → (rewriteToks ts)[i]? = some .kwAnd) ∧
      (ts[i] = .ident "v" → (rewriteToks ts)[i]? = some .kwOr) ∧
      (isAlt ts[i] = false → (rewriteToks ts)[i]? = some ts[i])) ∧
    (∀ t ∈ rewriteToks ts, isAlt t = false) := by
  refine ⟨List.length_map _, fun i h => ?_, fun t ht => ?_⟩
  · simp only [rewriteToks, List.getElem?_map, List.getElem?_eq_getElem h, Option.map_some,
      Option.some.injEq]
    exact ⟨fun e => e ▸ rfl, fun e => e ▸ rfl, fun e => e ▸ rfl, rewriteTok_of_not_alt⟩
  · obtain ⟨u, _, rfl⟩ := List.mem_map.mp ht
    exact isAlt_rewriteTok u

/-- **C08_rewrite_keeps_ne_and_names.** The last clause of `C08_rewrite_tokens` at the tokens that look most like an
alternate spelling: `!=` and an identifier other than `v` are kept. -/
theorem C08_rewrite_keeps_ne_and_names (s : String) (h : s ≠ "v") :
    rewriteTok (.cmp .ne) = .cmp .ne ∧ rewriteTok (.ident s) = .ident s := by
  simp [rewriteTok, h]

/-- non-vacuity: `!vx != v_ v nota ^ v1` -/
example :
    rewriteToks [.bang, .ident "vx", .cmp .ne, .ident "v_", .ident "v", .ident "nota", .caret, .ident "v1"]
      = [.kwNot, .ident "vx", .cmp .ne, .ident "v_", .kwOr, .ident "nota", .kwAnd, .ident "v1"] := by
  decide +kernel

/-- **C08_rewrite_chars_partial.** The (repaired) regex substitution, as a character scanner, on any well-spaced
rendering of a token list (`wellSpaced`, in `SMV/Lemmas/ExprLexer.lean`: optional blanks anywhere, none needed around
`>=`, `^`, `!`, parentheses or string literals): the three alternate spellings are replaced by blank-padded keywords
(`!` ↦ `␣not␣`, `^` ↦ `␣and␣`, `v` ↦ `␣or␣`), every other token and every separator — names containing `v`, `!=`,
string literals containing `v ! ^` — is written as it was, and the ends are stripped (a leading blank would be an
`IndentationError`).

Partial: the text-to-text half of "the rewritten text is read as `rewriteToks ts`" (with `C08_rewrite_padded`: an
inserted keyword cannot fuse with a neighbour). CPython's tokenizer is not modelled: that it reads the output as
`rewriteToks ts` is exercised by the correspondence check, not proved; non-ASCII identifiers, string prefixes, triple
quotes and line continuations are not covered. -/
theorem C08_rewrite_chars_partial (ts : List Tok) (seps : List (List Char))
    (h : wellSpaced ts seps = true) :
    replaceOperators true (render tokText ts seps) = strip (render tokTextR ts seps) :=
  congrArg strip (repl_render ts seps false h fun _ _ _ => rfl)

/-- **C08_rewrite_padded.** What is written for an alternate spelling starts and ends with a blank;
every other token is written as it was. -/
theorem C08_rewrite_padded (t : Tok) :
    (isAlt t = true → (tokTextR t).head? = some ' ' ∧ (tokTextR t).getLast? = some ' ') ∧
    (isAlt t = false → tokTextR t = tokText t) := by
  cases t with
  | ident s =>
    simp only [isAlt, tokTextR, tokText, decide_eq_true_eq, decide_eq_false_iff_not]
    exact ⟨fun h => by simp [h], fun h => if_neg h⟩
  | bang | caret => exact ⟨fun _ => by simp [tokTextR], nofun⟩
  | _ => exact ⟨nofun, fun _ => rfl⟩

/-- non-vacuity: `!vx>=1^(s=='v' v nota)!=v1 and!w` -/
example :
    let ts : List Tok := [.bang, .ident "vx", .cmp .ge, .num "1", .caret, .lpar, .ident "s", .cmp .eq,
      .strLit "'v'", .ident "v", .ident "nota", .rpar, .cmp .ne, .ident "v1", .kwAnd, .bang, .ident "w"]
    let seps : List (List Char) := [[], [], [], [], [], [], [], [], [' '], [' '], [], [], [], [' '], [], []]
    wellSpaced ts seps = true ∧
    String.ofList (render tokText ts seps) = "!vx>=1^(s=='v' v nota)!=v1 and!w" ∧
    String.ofList (replaceOperators true (render tokText ts seps)) =
      "not vx>=1 and (s=='v'  or  nota)!=v1 and not w" := by
  decide +kernel

/-- **D22 as found** (`fixed := false`): `!` glued to a preceding keyword is rewritten to a text
that no longer separates the two words (`x andnot y`, a syntax error); repaired: `x and not y`. -/
theorem C08_D22_asis_counterexample :
    String.ofList (replaceOperators false "x and!y".toList) = "x andnot y" ∧
    String.ofList (replaceOperators true "x and!y".toList) = "x and not y" ∧
    String.ofList (replaceOperators true "!x".toList) = "not x" := by decide +kernel

/-- **D9 as found** (`fixed := false`): the text inside a string literal is rewritten, so
`x == 'v'` compares `x` with `' or '`; repaired: untouched. -/
theorem C08_D9_asis_counterexample :
    String.ofList (replaceOperators false "x == 'v'".toList) = "x == ' or '" ∧
    String.ofList (replaceOperators true "x == 'v'".toList) = "x == 'v'" := by decide +kernel

/-- **D8 as found** (`fixed := false`): `x>=1` (no blank, no `!`) is taken as ONE name — which no
provider has, hence a spurious `InvalidDefinition`; repaired: only identifiers take the fast path. -/
theorem C08_D8_asis_counterexample :
    prepare false "x>=1".toList = .name "x>=1".toList ∧
    prepare true "x>=1".toList = .parse "x>=1".toList ∧
    prepare true "x".toList = .name "x".toList ∧
    prepare true "True".toList = .parse "True".toList ∧
    prepare true "a^b".toList = .parse "a and b".toList := by decide +kernel

/-- **C08_reject_early.** Instantiation answers `InvalidDefinition` iff some entry's text does not
parse or some entry names something no provider has; otherwise every registered guard is the fully
resolved closure tree of its entry (no placeholder for an unknown name survives), in declaration
order. (That nothing is left to fail when an event arrives is built into the model and not part of this statement:
the results of `allLib` are enabled / not enabled / the guard's own exception, there is no "unknown name" outcome.) -/
theorem C08_reject_early (prov : Nat → List Nat) (entries : List (Src × Bool)) :
    (construct prov entries = .invalidDefinition ↔ ∃ en ∈ entries, badEntry prov en) ∧
    ((∀ en ∈ entries, ¬ badEntry prov en) →
      construct prov entries =
        .ok ((sourceGuards entries).map (fun g => ⟨subst prov g.e, g.expected⟩))) := by
  rcases construct_spec prov entries with ⟨h1, h2⟩ | ⟨h1, h2⟩
  · refine ⟨⟨fun _ => h2, fun _ => h1⟩, ?_⟩
    intro hall
    obtain ⟨en, hm, hb⟩ := h2
    exact absurd hb (hall en hm)
  · refine ⟨⟨?_, ?_⟩, fun _ => h1⟩
    · intro h; rw [h1] at h; cases h
    · rintro ⟨en, hm, hb⟩; exact absurd hb (h2 en hm)

/-- What instantiation registered decides every event as Python decides the declared entries: same outcome (enabled,
not enabled, or the guard's exception) and, slot by slot, the same reads. `C08_end_to_end` is read off it. -/
theorem registered_eq_declared (S : Sem) (prov : Nat → List Nat) (entries : List (Src × Bool))
    (gs : List Guard) (hok : construct prov entries = .ok gs) (ρ : Env) :
    (allLib S ρ gs).val = (allPy S (envOf prov ρ) (sourceGuards entries)).val ∧
    firstReads (allLib S ρ gs).reads =
      (allPy S (envOf prov ρ) (sourceGuards entries)).reads.flatMap (fun n => provReads ρ (prov n)) := by
  rcases construct_spec prov entries with ⟨h1, _⟩ | ⟨h1, _⟩
  · rw [h1] at hok; cases hok
  · cases hok.symm.trans h1
    have hs := allLib_subst S prov ρ (sourceGuards entries)
    have hp := all_lib_py S (envOf prov ρ) (sourceGuards entries)
    rw [hs.1, hs.2, firstReads_expand, hp.1, hp.2]
    exact ⟨rfl, rfl⟩

/-- **C08_end_to_end.** If instantiation succeeds, then at every event, for every current valuation
of the providers' attributes, the transition is enabled iff every declared entry — evaluated as
Python evaluates the declared expression, each name worth the conjunction of its providers — has
its expected truth value; and the registered guards read the providers in Python's order. -/
theorem C08_end_to_end (S : Sem) (prov : Nat → List Nat) (entries : List (Src × Bool))
    (gs : List Guard) (hok : construct prov entries = .ok gs) (ρ : Env) :
    ((allLib S ρ gs).val = some true ↔
      ∀ g ∈ sourceGuards entries, passes S (envOf prov ρ) g = true) ∧
    firstReads (allLib S ρ gs).reads =
      ((untilFail S (envOf prov ρ) (sourceGuards entries)).flatMap
        (fun g => (evalPy S (envOf prov ρ) g.e).reads)).flatMap (fun n => provReads ρ (prov n)) := by
  have h := registered_eq_declared S prov entries gs hok ρ
  rw [h.1, h.2, allPy_true_iff, allPy_reads]
  exact ⟨Iff.rfl, rfl⟩

/-- non-vacuity: name 0 has providers (slots) 10 and 11, name 1 has none, name 2 has slot 12.
`cond="n0 and n1"` → InvalidDefinition; unparsable text → InvalidDefinition;
`cond="n0", unless="n2"` → ok with the conjunction over both providers of n0. -/
example :
    let prov : Nat → List Nat := fun n => if n = 0 then [10, 11] else if n = 2 then [12] else []
    (match construct prov [(.parsed (.and (.name 0) (.name 1)), true)] with
      | .invalidDefinition => true | .ok _ => false) = true ∧
    (match construct prov [(.parsed (.name 0), true), (.unparsable, false)] with
      | .invalidDefinition => true | .ok _ => false) = true ∧
    (match construct prov [(.parsed (.name 0), true), (.parsed (.name 2), false)] with
      | .invalidDefinition => false
      | .ok gs =>
        (allLib pySem (fun s => if s = 12 then .int 0 else .int 1) gs).val == some true &&
        (allLib pySem (fun s => if s = 11 then .none else if s = 12 then .int 0 else .int 1) gs).val == some false) = true := by
  decide +kernel

end SMV.GExpr
