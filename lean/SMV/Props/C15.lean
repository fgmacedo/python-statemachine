import SMV.Lemmas.DeclEquiv
import SMV.Lemmas.DeclAllowed
import SMV.Lemmas.DeclAny3
import SMV.Lemmas.DeclDeco
/-!
# C15 — every declaration style of the same machine yields the same machine

Model: `SMV.Model.Decl` (class body evaluation `elabBody` + metaclass processing `elabMeta`,
inheritance chains `elabProg`), linked to the engine model `SMV.Model.Engine` by `toMachine`.
What is trusted: that the real classes elaborate like the store model — checked on every run by the
correspondence harness (`harness/props/c15.py`: rendered Python source of random declaration
programs vs `drv_decl`).

`c₁ ≈ c₂` (`Decl.Equiv`): same states (id, value, flags, inline enter/exit), same event set, same error flag, and for
every state and event the same ordered list of candidates (target, internal, validators, guards,
before/on/after). `≈` classes behave identically (`C15_behaviour`, through `tryCands_filter`: the engine
only looks at per-event candidate lists) and allow the same events in every state (`C15_allowed`).

The styles. Equalities of elaboration, which may be applied in any context — under `|`, in any
statement kind, between any statements, in any class of an inheritance chain (`C15_rewrite_anywhere`):
(a) `to`/`from_`, (b) multi-target/multi-source vs `|`, (c) `itself`, (d) spellings of `event=`, (e) in
its decorator form: decorator-declared event vs assignment with `on=`, (g) `States({...})` /
`States.from_enum`. Up to `≈`: (f) `e = t.from_.any(kw)` vs `e = t.from_(s₁,…,sₖ, kw)` after any class
body (`C15_any_partial`; its hypotheses exclude the recorded shapes of finding D16). Renderings connected
by any chain of these are `≈`, hence behave identically (`C15_any_two`).

Not proved in general (only machine-checked on the instances below, `*_instance`, and exercised by
the correspondence): (d') one list assigned to two attributes vs `event="e1 e2"`; the other forms of
(e): `e = T` vs `Event(T)` vs placeholder `Event(name=…)` + `event=e`; (h) base class + subclass vs one
flat class; and (f) with transition-creating statements after the `any()` statement (needs an
index-shifting simulation of the rest of the body).
-/
namespace SMV
open SMV.Decl

@[inherit_doc] scoped infix:50 " ≈ " => Decl.Equiv

/-- **C15 (behaviour).** Equivalent classes are indistinguishable for the engine: every trigger, every
operation and every history gives the same result and the same configuration (model field, queue, log
of callback invocations with what they saw), for every `env` and every `Opts`. -/
theorem C15_behaviour {c₁ c₂ : Cls} (E : c₁ ≈ c₂) (env : Env) :
    (∀ (h : Nested) (t : Trigger), trigger h (toMachine env c₁) t = trigger h (toMachine env c₂) t) ∧
    (∀ (o : Opts) (fuel : Nat) (op : Op),
      stepOp (toMachine env c₁) o fuel op = stepOp (toMachine env c₂) o fuel op) ∧
    (∀ (o : Opts) (fuel : Nat) (ops : List Op) (cfg : Cfg),
      runOps (toMachine env c₁) o fuel ops cfg = runOps (toMachine env c₂) o fuel ops cfg) :=
  have T := fun h => trigger_congr h (Equiv.toMachine env E)
  ⟨T, stepOp_of_trigger T, runOps_of_trigger T⟩

/-- **C15 (allowed events).** Equivalent classes report the same `allowed_events` in every state. -/
theorem C15_allowed {c₁ c₂ : Cls} (E : c₁ ≈ c₂) (s : SDecl) (hs : s ∈ c₁.states) (e : Name) :
    e ∈ allowed c₁ s.name ↔ e ∈ allowed c₂ s.name := E.allowed s hs e

/-- the elementary style rewrites on transition expressions, (a)–(d) -/
inductive TRule : TExpr → TExpr → Prop
  | to_from (a b : Name) (kw : Kw) : TRule (.to a [b] kw) (.from_ b [a] kw)
  | multi_target (s : Name) (ts₁ ts₂ : List Name) (kw : Kw) :
      TRule (.to s (ts₁ ++ ts₂) kw) (.or (.to s ts₁ kw) (.to s ts₂ kw))
  | multi_source (t : Name) (ss₁ ss₂ : List Name) (kw : Kw) :
      TRule (.from_ t (ss₁ ++ ss₂) kw) (.or (.from_ t ss₁ kw) (.from_ t ss₂ kw))
  | to_itself (a : Name) (kw : Kw) : TRule (.toItself a kw) (.to a [a] kw)
  | from_itself (a : Name) (kw : Kw) : TRule (.fromItself a kw) (.from_ a [a] kw)
  /-- (d) any re-spelling of `event=` that denotes the same de-duplicated id sequence (`Decl.event_spelling`) -/
  | event_spelling (e : TExpr) (items : List EvItem) (h : kwEvents e.kwEvent = kwEvents items) :
      TRule e (e.withEvent items)

theorem TRule.sound {e e' : TExpr} (r : TRule e e') : TExpr.Eqv e e' := by
  cases r with
  | to_from a b kw => exact to_eq_from a b kw
  | multi_target s ts₁ ts₂ kw => exact to_split s ts₁ ts₂ kw
  | multi_source t ss₁ ss₂ kw => exact from_split t ss₁ ss₂ kw
  | to_itself a kw => exact toItself_eq a kw
  | from_itself a kw => exact fromItself_eq a kw
  | event_spelling e items h => exact Decl.event_spelling e items h

/-- the elementary style rewrites on statements: a `TRule` anywhere inside a statement, (e) and (g) -/
inductive SRule : List Stmt → List Stmt → Prop
  | texpr (S : SCtx) {e e' : TExpr} (r : TRule e e') : SRule [S.fill e] [S.fill e']
  | states_dict (ss : List SDecl) : SRule [.statesDict ss] (ss.map .state)
  | states_enum (ms : List (Name × Val)) (i : Name) (fs : List Name) :
      SRule [.statesEnum ms i fs] ((enumStates ms i fs).map .state)
  /-- (e), decorator form (`decorated_eq`) -/
  | decorator (e : TExpr) (f : Name) (cb : CbId) (he : e.fresh cb) :
      SRule [.decorated e f cb] [.assign f (e.withOn cb)]

theorem SRule.sound {s s' : List Stmt} (r : SRule s s') : Stmts.Eqv s s' := by
  cases r with
  | texpr S r => exact S.congr r.sound
  | states_dict ss => exact statesDict_eq ss
  | states_enum ms i fs => exact statesEnum_eq ms i fs
  | decorator e f cb he => exact decorated_eq e f cb he

/-- **C15 (a)(b)(c)(d)(e-decorator)(g).** A style rewrite applied between arbitrary statements `p`, `q`,
below arbitrary base classes `pre`, above arbitrary subclasses `post`, does not change the elaborated
class at all. -/
theorem C15_rewrite_anywhere {s s' : List Stmt} (r : SRule s s') (p q : List Stmt)
    (pre post : List (List Stmt)) :
    elabProg (pre ++ [p ++ s ++ q] ++ post) = elabProg (pre ++ [p ++ s' ++ q] ++ post) :=
  elabProg_congr (r.sound.context p q) pre post

/-- **C15 (f), partial.** After any class body `p`, the statement `e = t.from_.any(kw)` and the
statement `e = t.from_(s₁, …, sₖ, kw)`, `s₁ … sₖ` the non-final states of the class in declaration
order, declare equivalent classes — provided that
* every *non-final* state is declared before the event: the states `fs` declared after it are all
  final (and new, and nothing in `p` leaves them) (`C15ex.D16a_state_declared_later`),
* the event's expression holds no other transition (here: it is exactly the `any()` call;
  `C15ex.D16b_ordered_after_explicit`),
* `kw` carries no `event=` (`C15ex.D16d_event_kw_dropped`) and is not `internal` (`AnyState` is never the
  target),
* `e` is not assigned in `p`,
and the class has no base class that already used `from_.any()` (here: no base class;
`C15ex.D16c_as_is_duplicated_by_subclass`). -/
theorem C15_any_partial (p : List Stmt) (fs : List SDecl) (e t : Name) (kw : Kw)
    (hev : kw.event = []) (hint : kw.internal = false)
    (hfresh : e ∉ (elabBody {} p).attrs.map (·.1))
    (hfinal : ∀ f ∈ fs, f.final = true)
    (hnew : ∀ f ∈ fs, f.name ∉ (declared (elabBody {} p).attrs).map (·.name) ∧
      ∀ t' ∈ (elabBody {} p).trans, t'.source ≠ .st f.name) :
    elabClass {} (p ++ [.assign e (.fromAny t kw)] ++ fs.map .state) ≈
      elabClass {} (p ++ [.assign e (.from_ t
        (((declared (elabBody {} p).attrs ++ fs).filter (!·.final)).map (·.name)) kw)] ++ fs.map .state) :=
  any_partial_later_finals p fs e t kw hev hint hfresh hfinal hnew

/-- programs connected by style rewrites; `style` applies anywhere in a chain of classes, `any` (the
hypotheses of `C15_any_partial`) to a program of one class -/
inductive Rewrites : List (List Stmt) → List (List Stmt) → Prop
  | refl (P : List (List Stmt)) : Rewrites P P
  | symm {P Q : List (List Stmt)} : Rewrites P Q → Rewrites Q P
  | trans {P Q R : List (List Stmt)} : Rewrites P Q → Rewrites Q R → Rewrites P R
  | style {s s' : List Stmt} (r : SRule s s') (p q : List Stmt) (pre post : List (List Stmt)) :
      Rewrites (pre ++ [p ++ s ++ q] ++ post) (pre ++ [p ++ s' ++ q] ++ post)
  | any (p : List Stmt) (fs : List SDecl) (e t : Name) (kw : Kw) (hev : kw.event = [])
      (hint : kw.internal = false) (hfresh : e ∉ (elabBody {} p).attrs.map (·.1))
      (hfinal : ∀ f ∈ fs, f.final = true)
      (hnew : ∀ f ∈ fs, f.name ∉ (declared (elabBody {} p).attrs).map (·.name) ∧
        ∀ t' ∈ (elabBody {} p).trans, t'.source ≠ .st f.name) :
      Rewrites [p ++ [.assign e (.fromAny t kw)] ++ fs.map .state]
        [p ++ [.assign e (.from_ t
          (((declared (elabBody {} p).attrs ++ fs).filter (!·.final)).map (·.name)) kw)] ++ fs.map .state]

/-- **C15 (any two renderings).** Renderings connected by any chain of the proved rewrites declare
equivalent classes. -/
theorem C15_any_two {P Q : List (List Stmt)} (h : Rewrites P Q) : elabProg P ≈ elabProg Q := by
  induction h with
  | refl P => exact Equiv.refl _
  | symm _ ih => exact ih.symm
  | trans _ _ ih1 ih2 => exact ih1.trans ih2
  | style r p q pre post => rw [C15_rewrite_anywhere r p q pre post]; exact Equiv.refl _
  | any p fs e t kw hev hint hfresh hfinal hnew => exact C15_any_partial p fs e t kw hev hint hfresh hfinal hnew

/-- **C15 (any two renderings, behaviour).** Renderings so connected behave identically on every history. -/
theorem C15_any_two_behaviour {P Q : List (List Stmt)} (h : Rewrites P Q) (env : Env) (o : Opts)
    (fuel : Nat) (ops : List Op) (cfg : Cfg) :
    runOps (toMachine env (elabProg P)) o fuel ops cfg = runOps (toMachine env (elabProg Q)) o fuel ops cfg :=
  (C15_behaviour (C15_any_two h) env).2.2 o fuel ops cfg

namespace C15ex

-- callback ids: 1 a guard, 2 an `on` action, 3 an `enter` action, 5 and 9 bodies of decorated functions
def sA : SDecl := { name := 0, initial := true }
def sB : SDecl := { name := 1, value := some 7, enter := [3] }
def sZ : SDecl := { name := 2, final := true }
def nokw : Kw := {}
def guarded : Kw := { cond := [1], on := [2] }
def go : Name := 10
def stop : Name := 11
def x : Name := 12

def body : List Stmt := [.state sA, .state sB, .state sZ, .assign go (.to 0 [1] guarded)]

/-- non-vacuity of `C15_any_partial`: its hypotheses hold on `body`, with a final state declared after the
event; the explicit list is `[s0, s1]` -/
example : elabClass {} (body ++ [.assign stop (.fromAny 2 guarded)] ++ [.state { name := 4, final := true }]) ≈
    elabClass {} (body ++ [.assign stop (.from_ 2 [0, 1] guarded)] ++ [.state { name := 4, final := true }]) :=
  C15_any_partial body [{ name := 4, final := true }] stop 2 guarded rfl rfl (by decide) (by decide) (by decide)

/-- the two classes `C15_any_partial` relates (here with no later state) are different objects: their stores differ -/
example : elabClass {} (body ++ [.assign stop (.fromAny 2 guarded)]) ≠
    elabClass {} (body ++ [.assign stop (.from_ 2 [0, 1] guarded)]) := by decide +kernel

/-- the `any()` rendering does give `s1` a candidate for `stop`: the lists `C15_any_partial` equates are not empty -/
example : cands (elabClass {} (body ++ [.assign stop (.fromAny 2 guarded)])) 1 stop =
    [⟨2, false, [], [(1, true)], [], [2], []⟩] := by decide +kernel

/-- non-vacuity of `C15_rewrite_anywhere`: a multi-target call under `|` inside a decorator, in a
subclass -/
example : elabProg [body, [.decorated (.or (.to 1 [0, 2] nokw) (.ref go)) x 5]] =
    elabProg [body, [.decorated (.or (.or (.to 1 [0] nokw) (.to 1 [2] nokw)) (.ref go)) x 5]] :=
  C15_rewrite_anywhere (.texpr (.decorated (.orL .hole (.ref go)) x 5) (.multi_target 1 [0] [2] nokw))
    [] [] [body] []

/-- non-vacuity of the decorator rule -/
example : SRule [.decorated (.or (.to 1 [2] guarded) (.from_ 0 [1] nokw)) stop 9]
    [.assign stop (.or (.to 1 [2] { guarded with on := [2, 9] }) (.from_ 0 [1] { nokw with on := [9] }))] :=
  .decorator _ stop 9 ⟨by show 9 ∉ [2]; decide, by show 9 ∉ []; decide⟩

/-- non-vacuity of the `event=` rule: `"go x"` ↔ `[Event("go"), "x"]` -/
example : TRule (.to 0 [1] { nokw with event := [.str [go, x]] })
    (.to 0 [1] { nokw with event := [.obj go, .str [x]] }) :=
  .event_spelling (.to 0 [1] { nokw with event := [.str [go, x]] }) [.obj go, .str [x]] rfl

/-- D16a: a state declared after the event gets no `any()` transition -/
theorem D16a_state_declared_later :
    ¬ (elabClass {} [.state sA, .state sZ, .assign stop (.fromAny 2 nokw), .state sB, .assign go (.to 0 [1] nokw)] ≈
       elabClass {} [.state sA, .state sZ, .assign stop (.from_ 2 [0, 1] nokw), .state sB, .assign go (.to 0 [1] nokw)]) := by
  intro h
  have := h.cands sB (by decide +kernel) stop
  revert this
  decide +kernel

/-- D16b: the expansions are ordered after explicit transitions of the same event -/
theorem D16b_ordered_after_explicit :
    ¬ (elabClass {} (body ++ [.assign stop (.or (.fromAny 2 guarded) (.to 0 [1] nokw))]) ≈
       elabClass {} (body ++ [.assign stop (.or (.from_ 2 [0, 1] guarded) (.to 0 [1] nokw))])) := by
  intro h
  have := h.cands sA (by decide +kernel) stop
  revert this
  decide +kernel

/-- D16c as repaired by commit 8ac2dc6: a subclass does not expand the base's `any()` again —
base class + subclass is equivalent to the flat class also when the base uses `from_.any()` -/
theorem D16c_fixed_instance :
    elabProg [body ++ [.assign stop (.fromAny 2 guarded)], [.assign x (.to 1 [0] nokw)]] ≈
    elabProg [body ++ [.assign stop (.fromAny 2 guarded)] ++ [.assign x (.to 1 [0] nokw)]] :=
  equivB_sound (by decide +kernel)

/-- D16c, the code before the repair: registering the inherited states re-ran the expansion, the
subclass (and, through the shared `State` objects, the base class) held duplicates -/
theorem D16c_as_is_duplicated_by_subclass :
    ¬ (elabClassAsIs (elabClass {} (body ++ [.assign stop (.fromAny 2 guarded)])) [.assign x (.to 1 [0] nokw)] ≈
       elabProg [body ++ [.assign stop (.fromAny 2 guarded)] ++ [.assign x (.to 1 [0] nokw)]]) := by
  intro h
  have := h.cands sA (by decide +kernel) stop
  revert this
  decide +kernel

/-- D16d: `event=` given to `any()` is dropped -/
theorem D16d_event_kw_dropped :
    ¬ (elabClass {} (body ++ [.assign stop (.fromAny 2 { nokw with event := [.str [x]] })]) ≈
       elabClass {} (body ++ [.assign stop (.from_ 2 [0, 1] { nokw with event := [.str [x]] })])) := by
  intro h
  have := (h.events x).mpr (by decide +kernel)
  revert this
  decide +kernel

/-- (d') one list assigned to two attributes ↔ `event="stop x"` on a statement-only transition -/
theorem shared_list_instance :
    elabClass {} (body ++ [.assign stop (.to 1 [2] guarded), .assign x (.ref stop)]) ≈
    elabClass {} (body ++ [.bare (.to 1 [2] { guarded with event := [.str [stop, x]] })]) :=
  equivB_sound (by decide +kernel)

/-- (e) `stop = T` ↔ `stop = Event(T, name=…)` -/
theorem explicit_event_instance :
    elabClass {} (body ++ [.assign stop (.to 1 [2] guarded)]) ≈
    elabClass {} (body ++ [.eventOf stop (.to 1 [2] guarded)]) := equivB_sound (by decide +kernel)

/-- (e) `stop = T` ↔ placeholder `stop = Event(name=…)` + `event=stop` on the transition -/
theorem placeholder_instance :
    elabClass {} (body ++ [.assign stop (.to 1 [2] guarded)]) ≈
    elabClass {} ([.placeholder stop] ++ body ++ [.bare (.to 1 [2] { guarded with event := [.ph stop] })]) :=
  equivB_sound (by decide +kernel)

/-- (e) `stop = T` with `on` callback 2 ↔ `@T' def stop(self): cb2`, `T'` = `T` without `on=` -/
theorem decorator_instance :
    elabClass {} (body ++ [.assign stop (.to 1 [2] guarded)]) ≈
    elabClass {} (body ++ [.decorated (.to 1 [2] { guarded with on := [] }) stop 2]) :=
  equivB_sound (by decide +kernel)

/-- (h) base class + subclass ↔ one flat class (no `any()` in the base) -/
theorem inheritance_instance :
    elabProg [body, [.state { name := 3 }, .assign stop (.or (.to 1 [3] nokw) (.from_ 2 [3] guarded))]] ≈
    elabProg [body ++ [.state { name := 3 }, .assign stop (.or (.to 1 [3] nokw) (.from_ 2 [3] guarded))]] :=
  equivB_sound (by decide +kernel)

/-- non-vacuity of `C15_behaviour`'s conclusion on an instance: sending `stop` in `s1` with a true guard
moves the `any()` rendering (hence both) to `s2` -/
example : let env : Env := { behav := fun _ _ _ => { ret := 1 }, truthy := fun v => v == 1 }
    let m := toMachine env (elabClass {} (body ++ [.assign stop (.fromAny 2 guarded)]))
    (runOps m {} 10 [.construct, .send go, .send stop] {}).cur = some (valOf sZ) := by decide +kernel

end C15ex
end SMV
