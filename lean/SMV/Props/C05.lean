import SMV.Props.C11
import SMV.Props.C03
/-!
# C05 — Async callbacks behave exactly like their synchronous counterparts

The async engine runs the *same* activation sequence as the sync engine, awaiting each group; in
the model the two kinds share every definition and differ only in construction (the async engine
cannot activate inside `__init__`). Whether a callback is a coroutine is invisible to the model —
that the real engine behaves so (awaits every started coroutine before the next phase, same
phases, arguments, results, exceptions) is what the correspondence check (DESIGN.md §5) tests, against the sync twin
too. The property also leans on `C02_phase_order` and `C03_history` for the shared engine: C05's audit list
(`C05.index`) names them, hence the import of C03.
-/
namespace SMV

/-- every operation after construction is the same function for both engine kinds -/
theorem C05_ops_kind_irrelevant (m : Machine) (rtc : Bool) (fuel : Nat) (e : EventId) :
    send m { rtc := rtc, kind := .async } fuel e = send m { rtc := rtc, kind := .sync } fuel e ∧
    activateOp m { rtc := rtc, kind := .async } fuel = activateOp m { rtc := rtc, kind := .sync } fuel :=
  ⟨rfl, rfl⟩

/-- **C05 (deferred activation = synchronous construction).** Constructing with the async engine
and then activating explicitly reaches exactly the configuration the sync engine's constructor reaches. -/
theorem C05_async_construct_activate (m : Machine) (fuel : Nat) (c : Cfg) :
    (activateOp m { rtc := true, kind := .async } fuel
      (construct m { rtc := true, kind := .async } fuel c).1).1 =
    (construct m { rtc := true, kind := .sync } fuel c).1 := by
  rw [C11_async_defers]
  -- the sync constructor is `start` followed by the same `process` (the engine kind is not looked at), result dropped
  show _ = ((start >>= fun _ => process m { rtc := true, kind := .sync } fuel >>= fun _ => pure ()) c).1
  rw [EM.bind_ok (start_ok c), EM.bind_pure_fst]
  rfl

/-- **C05 (initial activation first).** With the async engine the `__initial__` trigger is ahead of
the first event in the queue (`C11_async_initial_first`); the queue is FIFO and the log's trigger ids never decrease
(`C03_history`), which is what puts its block before every other block. -/
theorem C05_initial_first (c : Cfg) (e : EventId) (hcur : c.cur = none) (hq : c.queue = []) :
    (enqueue e (start c).1).1.queue =
      [{ tid := c.nextTid, event := initialEv, internal := true }, { tid := c.nextTid + 1, event := e }] :=
  C11_async_initial_first c e hcur hq

/-- rtc=False is not available on the async engine: construction raises InvalidDefinition and
touches nothing -/
theorem C05_async_requires_rtc (m : Machine) (fuel : Nat) (c : Cfg) :
    construct m { rtc := false, kind := .async } fuel c = (c, .error .invalidDef) := rfl

end SMV
