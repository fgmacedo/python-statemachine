import SMV.Lemmas.Store
import SMV.Lemmas.Rtc
import SMV.Model.Clone  -- `DecidableEq (Except ε α)`, for the `decide` checks at the end
/-!
# C10 — The current state is exactly what the user's model stores

> The machine's current state is exactly what is stored in the user's model under `state_field`:
> after every transition that field holds the target state's `value`, and `current_state`,
> `current_state_value` and `is_active` reflect any valid value written there (by the machine or
> externally) for every kind of value including falsy ones such as 0, with exactly one state active
> at any time. The model object supplied by the user is the one used, an unmapped value raises
> `InvalidStateValue` without being stored, and `start_value` selects the starting state when the
> model has none.

Model: `SMV/Model/Store.lean`. `Coherent st` = "`sm.model` is the object the user holds"; the repaired
constructor establishes it for every model object (`C10_model_identity`) and every operation keeps it, so every
theorem that assumes it applies to every state reachable from `construct true …`. `m.truthy` (Python's `bool`) is
*any* function and appears in no hypothesis of a `fixed := true` theorem: the statements hold for values and model
objects that are falsy.
-/
namespace SMV.Store

/-- If the cell holds the declared value `v`, all readers say `v`: `current_state_value` is `v`,
`current_state` is a state whose value is `v`, and `is_active` is true of exactly that state. -/
theorem reads_of_cell (m : Mach) (st : Store) (v : Val) (hcell : st.cell = some v) (hv : v ∈ m.values) :
    currentStateValue st = some v ∧
    ∃ s, s < m.n ∧ valueOf m s = v ∧ currentState m st = .ok s ∧
      ∀ s', isActive m st s' = .ok (s' == s) := by
  obtain ⟨s, hs⟩ := lookup_of_mem m v hv
  obtain ⟨hlt, hval⟩ := lookup_value m v s hs
  refine ⟨hcell, s, hlt, hval, by simp [currentState, hcell, hs], fun s' => ?_⟩
  simp only [isActive, currentState, hcell, hs, Bool.beq_comm]

/-- If the cell holds nothing or an undeclared value, every reader that needs a state raises
`InvalidStateValue`. -/
theorem reads_of_bad_cell (m : Mach) (st : Store)
    (h : st.cell = none ∨ ∃ w, st.cell = some w ∧ w ∉ m.values) :
    currentState m st = .error .invalidState ∧ ∀ s, isActive m st s = .error .invalidState := by
  have hcs : currentState m st = .error .invalidState := by
    rcases h with h | ⟨w, hw, hn⟩
    · simp [currentState, h]
    · simp [currentState, hw, (lookup_eq_none m w).mpr hn]
  exact ⟨hcs, fun s => by simp [isActive, hcs]⟩

/-- **C10, transitions.** When the machine looks at the user's object, an event for which the current
state declares a transition `t` is executed, and afterwards the field of the user's object — and
`current_state_value` — is the `value` of `t`'s target. -/
theorem _root_.SMV.C10_after_transition (m : Mach) (st : Store) (hc : Coherent st)
    (e : EventId) (s : StateId) (t : Tr)
    (hs : currentState m st = .ok s) (ht : firstMatch m s e = some t) (htgt : t.tgt < m.n) :
    (send m e st).2 = .ok () ∧
    (send m e st).1.userView = some (valueOf m t.tgt) ∧
    currentStateValue (send m e st).1 = some (valueOf m t.tgt) := by
  have : send m e st = (st.setCell (some (valueOf m t.tgt)), .ok ()) := by
    simp only [send, hs, ht, writeState, writeValue_mapped m _ st (mapped_valueOf m t.tgt htgt)]
  rw [this]
  exact ⟨rfl, hc.userView_setCell _, cell_setCell ..⟩

/-- An event that is *not* executed (no current state, no transition) leaves the field alone. -/
theorem _root_.SMV.C10_no_transition_no_write (m : Mach) (st : Store) (e : EventId)
    (h : (∃ x, currentState m st = .error x) ∨ ∃ s, currentState m st = .ok s ∧ firstMatch m s e = none) :
    (send m e st).1 = st := by
  rcases h with ⟨x, hx⟩ | ⟨s, hs, hn⟩
  · simp [send, hx]
  · simp only [send, hs, hn]; split <;> rfl

/-- `C10_after_transition` at every point of every history after the (repaired) constructor, whatever model
object and `start_value` were given -/
theorem _root_.SMV.C10_after_transition_history (m : Mach) (um : Option UserModel) (sv : Option Val)
    (ops : List Op) (e : EventId) (s : StateId) (t : Tr) :
    let st := run m ops (construct true m um sv).1
    currentState m st = .ok s → firstMatch m s e = some t → t.tgt < m.n →
    (send m e st).2 = .ok () ∧ (send m e st).1.userView = some (valueOf m t.tgt) := by
  intro st hs ht htgt
  have := SMV.C10_after_transition m st (run_coherent m ops _ (construct_coherent m um sv)) e s t hs ht htgt
  exact ⟨this.1, this.2.1⟩

/-- the three ways a declared value `v` can be put into the field -/
inductive WritesValue (m : Mach) (v : Val) : Op → Prop
  /-- `sm.current_state_value = v` -/
  | byValue : WritesValue m v (.writeValue (some v))
  /-- `sm.current_state = sm.<s>` with `s.value == v` -/
  | byState (s : StateId) : s < m.n → valueOf m s = v → WritesValue m v (.writeState s)
  /-- `setattr(model, field, v)` behind the machine's back -/
  | raw : WritesValue m v (.raw (some v))

/-- **C10, reads.** A declared value `v` — whatever `bool(v)` is — written by the machine's setters or
directly into the user's object is stored there, and the three readers reflect it: `is_active` is true of
the state `current_state` returns and false of every other one. -/
theorem _root_.SMV.C10_reads_reflect (m : Mach) (st : Store) (hc : Coherent st) (v : Val) (hv : v ∈ m.values)
    (op : Op) (hop : WritesValue m v op) :
    (step m op st).2 = .ok () ∧
    (step m op st).1.userView = some v ∧
    currentStateValue (step m op st).1 = some v ∧
    ∃ s, s < m.n ∧ valueOf m s = v ∧ currentState m (step m op st).1 = .ok s ∧
      ∀ s', isActive m (step m op st).1 s' = .ok (s' == s) := by
  have hw := writeValue_mapped m v st ((mapped_iff m v).mpr hv)
  have hstep : step m op st = (st.setCell (some v), .ok ()) := by
    cases hop with
    | byValue => exact hw
    | byState s hs hval => simp only [step, writeState, hval, hw]
    | raw => simp only [step, hc.userWrite]
  rw [hstep]
  exact ⟨rfl, hc.userView_setCell _, reads_of_cell m _ v (cell_setCell ..) hv⟩

/-- with distinct state values, "the state with value `v`" is unique: `is_active` of `s` is exactly
`s.value == v` -/
theorem _root_.SMV.C10_is_active_iff_value (m : Mach) (hd : m.values.Nodup) (st : Store) (v : Val)
    (hcell : st.cell = some v) (hv : v ∈ m.values) (s : StateId) (hs : s < m.n) :
    isActive m st s = .ok (decide (valueOf m s = v)) := by
  obtain ⟨_, c, hc, hval, _, hact⟩ := reads_of_cell m st v hcell hv
  rw [hact s]
  refine congrArg _ ?_
  rw [Bool.eq_iff_iff, beq_iff_eq, decide_eq_true_eq]
  exact ⟨fun h => h ▸ hval, fun h => valueOf_inj m hd hs hc (h.trans hval.symm)⟩

/-- **C10, exactly one active state, over every history** of events, checked writes of *any* value
(invalid ones are rejected), writes by state, and raw external writes of declared values, from any store
whose field holds a declared value (e.g. after construction): at the end (hence at every point) the field
holds a declared value `v` and `is_active` is true of exactly one declared state — values being distinct,
the one whose value is `v`. -/
theorem _root_.SMV.C10_exactly_one_active (m : Mach) (hd : m.values.Nodup) (st0 : Store) (hc : Coherent st0)
    (h0 : Mapped m st0) (ops : List Op) (hv : ∀ op ∈ ops, op.valid m) :
    ∃ v, (run m ops st0).userView = some v ∧ v ∈ m.values ∧
      (∀ s, s < m.n → isActive m (run m ops st0) s = .ok (decide (valueOf m s = v))) ∧
      ∃ s, s < m.n ∧ isActive m (run m ops st0) s = .ok true ∧
        ∀ s', isActive m (run m ops st0) s' = .ok true → s' = s := by
  obtain ⟨v, hcell, hmv⟩ := run_Mapped m ops st0 hc hv h0
  have hvm := (mapped_iff m v).mp hmv
  obtain ⟨_, s, hs, hval, _, hact⟩ := reads_of_cell m _ v hcell hvm
  refine ⟨v, (run_coherent m ops st0 hc).userView.trans hcell, hvm,
    fun s' hs' => SMV.C10_is_active_iff_value m hd _ v hcell hvm s' hs', s, hs, by rw [hact, beq_iff_eq.mpr rfl], ?_⟩
  intro s' h'
  rw [hact s'] at h'
  simpa using h'

/-- **C10, never two active states.** In any store whatsoever, hence after any history (raw writes of garbage
included): either exactly one state is active, or every `is_active` raises `InvalidStateValue`. Never two, never
silently none. -/
theorem _root_.SMV.C10_never_two_active (m : Mach) (st : Store) :
    (∃ s, s < m.n ∧ ∀ s', isActive m st s' = .ok (s' == s)) ∨
    (∀ s', isActive m st s' = .error .invalidState) := by
  cases hcell : st.cell with
  | none => exact .inr (reads_of_bad_cell m st (.inl hcell)).2
  | some v =>
    by_cases hv : v ∈ m.values
    · obtain ⟨_, s, hs, _, _, hact⟩ := reads_of_cell m st v hcell hv
      exact .inl ⟨s, hs, hact⟩
    · exact .inr (reads_of_bad_cell m st (.inr ⟨v, hcell, hv⟩)).2

/-- **C10, invalid writes.** `sm.current_state_value = w` for `w = None` or an undeclared `w`
raises `InvalidStateValue` and stores nothing (the whole store is unchanged). If instead the user
writes such a `w` directly into the object, the machine does not hide it: `current_state_value`
returns it, and `current_state`, every `is_active` and every `send` raise `InvalidStateValue`
(the event leaves the field as it is). -/
theorem _root_.SMV.C10_invalid_write (m : Mach) (st : Store) (w : Option Val)
    (hw : ∀ v, w = some v → v ∉ m.values) :
    writeValue m w st = (st, .error .invalidState) ∧
    (Coherent st →
      let st' := (step m (.raw w) st).1
      st'.userView = w ∧ currentStateValue st' = w ∧
      currentState m st' = .error .invalidState ∧
      (∀ s, isActive m st' s = .error .invalidState) ∧
      ∀ e, send m e st' = (st', .error .invalidState)) := by
  refine ⟨writeValue_refused m w st hw, fun hc => ?_⟩
  simp only [step, hc.userWrite]
  have hcell : (st.setCell w).cell = w := cell_setCell ..
  have hbad : (st.setCell w).cell = none ∨ ∃ v, (st.setCell w).cell = some v ∧ v ∉ m.values := by
    cases w with
    | none => exact .inl hcell
    | some v => exact .inr ⟨v, hcell, hw v rfl⟩
  obtain ⟨hcs, hact⟩ := reads_of_bad_cell m _ hbad
  exact ⟨hc.userView_setCell w, hcell, hcs, hact, fun e => by simp [send, hcs]⟩

/-- **C10, model identity.** With the repaired constructor, whatever object the user supplies —
also one whose `bool()` is false — and whatever `start_value`, `sm.model` is that object, also
when the constructor raises, and it stays so along every history; hence the field the user sees is
at every moment what `current_state_value` returns. -/
theorem _root_.SMV.C10_model_identity (m : Mach) (um : Option UserModel) (sv : Option Val) (ops : List Op) :
    (observe m (run m ops (construct true m um sv).1)).ident = true ∧
    (run m ops (construct true m um sv).1).userView
      = currentStateValue (run m ops (construct true m um sv).1) := by
  have hc := run_coherent m ops _ (construct_coherent m um sv)
  refine ⟨?_, hc.userView⟩
  simp only [observe]
  cases hs : (run m ops (construct true m um sv).1).supplied
  · simp
  · simp [hc hs]

/-- **D2, negation witness** for the code as it was (`model if model else Model()`): a user model
whose `bool()` is false (e.g. a `list` subclass with a `state` attribute) is replaced — the machine
starts, but the user's object never learns the state. -/
theorem _root_.SMV.C10_model_identity_asis_fails :
    ∃ (m : Mach) (u : UserModel) (sv : Option Val),
      let st := (construct false m (some u) sv).1
      (observe m st).ident = false ∧ st.userView = none ∧ currentStateValue st = some 7 :=
  ⟨{ values := [7, 8], initial := 0 }, { truthy := false, cell := none }, none, by decide⟩

/-- **C10, `start_value`.** With the repaired constructor, when the model holds no state, a
`start_value` `v` — whatever `bool(v)` is — selects the starting state: if `v` is declared the
constructor succeeds and the user's object holds `v` (so all readers say `v`, by `reads_of_cell`);
if `v` is undeclared the constructor raises `InvalidStateValue` and stores nothing. -/
theorem _root_.SMV.C10_start_value (m : Mach) (um : Option UserModel) (hnone : ∀ u, um = some u → u.cell = none)
    (v : Val) :
    (v ∈ m.values →
      (construct true m um (some v)).2 = .ok () ∧
      (construct true m um (some v)).1.userView = some v ∧
      currentStateValue (construct true m um (some v)).1 = some v ∧
      ∃ s, s < m.n ∧ valueOf m s = v ∧ currentState m (construct true m um (some v)).1 = .ok s) ∧
    (v ∉ m.values →
      (construct true m um (some v)).2 = .error .invalidState ∧
      (construct true m um (some v)).1.userView = none) := by
  -- the constructor is `sm.current_state_value = v` on the empty model: the two write theorems apply
  have hcm := chooseModel_coherent um
  have hw : construct true m um (some v) = writeValue m (some v) (chooseModel true um) :=
    construct_of_empty true m um (some v) hnone
  rw [hw]
  constructor
  · intro hv
    obtain ⟨h1, h2, h3, s, hs, hval, hcs, _⟩ := SMV.C10_reads_reflect m _ hcm v hv _ .byValue
    exact ⟨h1, h2, h3, s, hs, hval, hcs⟩
  · intro hv
    rw [writeValue_refused m (some v) _ fun _ h => Option.some.inj h ▸ hv, hcm.userView]
    exact ⟨rfl, chooseModel_cell true um hnone⟩

/-- without `start_value` the declared initial state is the start -/
theorem _root_.SMV.C10_start_default (m : Mach) (hi : m.initial < m.n) (um : Option UserModel)
    (hnone : ∀ u, um = some u → u.cell = none) :
    (construct true m um none).2 = .ok () ∧
    (construct true m um none).1.userView = some (valueOf m m.initial) := by
  rw [construct_of_empty true m um none hnone, initialValue,
    writeValue_mapped m _ _ (mapped_valueOf m m.initial hi)]
  exact ⟨rfl, (chooseModel_coherent um).userView_setCell _⟩

/-- "when the model has none": a state already stored in the user's object is kept, whatever
`start_value` says (and whether or not it is a declared value — the constructor does not look) -/
theorem _root_.SMV.C10_start_keeps_stored (m : Mach) (u : UserModel) (w : Val) (hw : u.cell = some w)
    (sv : Option Val) :
    (construct true m (some u) sv).2 = .ok () ∧
    (construct true m (some u) sv).1.userView = some w := by
  have hcell : (chooseModel true (some u)).cell = some w := hw
  rw [construct, start_eq, hcell]
  exact ⟨rfl, hw⟩

/-- **D1, negation witness** for the code as it was (`if self.start_value`): states `a(value=5,
initial)`, `b(value=0)`, `start_value=0` — the machine starts in `a`. -/
theorem _root_.SMV.C10_start_value_asis_fails :
    ∃ (m : Mach) (v : Val), v ∈ m.values ∧
      (construct false m none (some v)).2 = .ok () ∧
      currentStateValue (construct false m none (some v)).1 ≠ some v :=
  ⟨{ values := [5, 0], initial := 0, truthy := fun v => v != 0 }, 0, by decide, by decide, by decide⟩

/-- a machine with a falsy value (`0` with `truthy 0 = false`) and an event table -/
def exM : Mach :=
  { values := [5, 0, 9], initial := 0, trans := [⟨0, 1, 1⟩, ⟨1, 1, 2⟩, ⟨2, 2, 0⟩],
    truthy := fun v => v != 0 }

/-- a falsy user model (`bool(obj) == False`) with nothing stored -/
def exU : UserModel := { truthy := false, cell := none }

-- C10_after_transition: the hypotheses are satisfiable, the target's value is the falsy `0`
example : let st := (construct true exM (some exU) none).1
    Coherent st ∧ currentState exM st = .ok 0 ∧ firstMatch exM 0 1 = some ⟨0, 1, 1⟩ ∧ (1 : Nat) < exM.n ∧
    (send exM 1 st).1.userView = some 0 ∧ exM.truthy 0 = false := by decide +kernel

-- C10_reads_reflect: all three routes, value `0` whose `truthy` is false
example : WritesValue exM 0 (.writeValue (some 0)) ∧ WritesValue exM 0 (.writeState 1) ∧
    WritesValue exM 0 (.raw (some 0)) ∧ (0 : Val) ∈ exM.values ∧ exM.truthy 0 = false :=
  ⟨.byValue, .byState 1 (by decide) (by decide), .raw, by decide, by decide⟩

-- C10_exactly_one_active: events, checked writes (valid and invalid), a write by state and a raw write
def exOps : List Op :=
  [.send 1, .raw (some 9), .writeValue (some 77), .send 2, .writeState 1, .writeValue none, .send 1, .read]

example : exM.values.Nodup ∧ (∀ op ∈ exOps, op.valid exM) ∧
    Coherent (construct true exM (some exU) none).1 ∧
    (construct true exM (some exU) none).1.cell = some 5 ∧ mapped exM 5 = true ∧
    (observe exM (run exM exOps (construct true exM (some exU) none).1)).active
      = [.ok false, .ok false, .ok true] := by decide +kernel

example : Mapped exM (construct true exM (some exU) none).1 := ⟨5, by decide, by decide⟩

-- C10_invalid_write: `77` and `None` are undeclared; the raw route makes the next read raise
example : (∀ v, some 77 = some v → v ∉ exM.values) ∧
    currentState exM (step exM (.raw (some 77)) (construct true exM none none).1).1 = .error .invalidState ∧
    currentState exM (step exM (.raw none) (construct true exM none none).1).1 = .error .invalidState := by
  exact ⟨fun v h => Option.some.inj h ▸ by decide, by decide, by decide⟩

-- C10_model_identity / C10_start_value: falsy model object, falsy start value
example : (observe exM (construct true exM (some exU) (some 0)).1).ident = true ∧
    (construct true exM (some exU) (some 0)).1.userView = some 0 ∧
    (∀ u, some exU = some u → u.cell = none) := by
  exact ⟨by decide, by decide, fun u h => Option.some.inj h ▸ rfl⟩

-- C10_start_value, second half: an undeclared start value
example : (77 : Val) ∉ exM.values ∧ (construct true exM none (some 77)).2 = .error .invalidState := by decide

-- C10_start_keeps_stored
example : (construct true exM (some { truthy := false, cell := some 9 }) (some 0)).1.userView = some 9 := by decide

end SMV.Store

namespace SMV

/-- **C10, transitions, engine level.** Processing an event (other than `__initial__`) in the
engine model of `SMV.Model.Engine` — arbitrary user callbacks in every group, guards, validators,
nested sends — when the model field `cur` maps to state `s`: if the event is executed, one of `s`'s
transitions declared for the event was taken and the field holds *its target's value* when processing
ends; if it is merely tolerated (`allow_event_without_transition`) the result is `None`. This is about an
event whose processing returns a result; for every outcome of the candidate loop, a raising callback included,
`tryCands_cases` (`Lemmas/Rtc.lean`) says that the field is untouched or holds such a target's value. -/
theorem C10_engine_after_transition (m : Machine) (t : Trigger) (c c' : Cfg) (r : Res) (s : StateId)
    (hne : (t.event == initialEv) = false) (hcur : c.cur.bind (lookupState m) = some s)
    (h : trigger nestedRtc m t c = (c', .ok (some r))) :
    (∃ tr ∈ out m s, matchesEv tr t.event = true ∧ c'.cur = some (stateVal m tr.target)) ∨
    (m.allow = true ∧ r = .none) := by
  rw [trigger_event nestedRtc m (.inl hne) hcur] at h
  obtain ⟨rfl, hf⟩ := Prod.mk.inj h
  cases hr : (tryCands nestedRtc m t (out m s) c).2 with
  | error e =>
    rw [hr] at hf
    cases hf
  | ok a =>
    cases a with
    | some r' => exact .inl ((tryCands_cases m t _ c).resolve_left fun h => h.2 r' hr)
    | none =>
      rw [hr, finish] at hf
      split at hf
      · exact .inr ⟨‹_›, (Option.some.inj (Except.ok.inj hf)).symm⟩
      · cases hf

-- non-vacuity: a one-transition machine whose `on` callback (id 7) sends a nested event
example :
    let m : Machine := { states := [{ value := 5, initial := true, trans := [{ source := 0, target := 1, events := [1], on := [{ id := 7 }] }] },
                                    { value := 0 }],
                         behav := fun _ _ _ => { ret := 3, sends := [1] }, truthy := fun v => v != 0 }
    let c : Cfg := { cur := some 5 }
    c.cur.bind (lookupState m) = some 0 ∧
    (trigger nestedRtc m ⟨0, 1, false⟩ c).2 = .ok (some (.one 3)) ∧ (trigger nestedRtc m ⟨0, 1, false⟩ c).1.cur = some 0 := by
  decide +kernel

end SMV
