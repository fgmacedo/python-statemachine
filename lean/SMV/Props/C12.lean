import SMV.Lemmas.Registry
import SMV.Lemmas.Attach
import SMV.Lemmas.ExprGuards
/-!
# C12 — Listeners and the model are first-class callback providers, attached once

Attachment is looked at in three models, one per namespace below.
* `Prov` (`Model/World.lean`): names → executor items keyed by (name, provider). That an instance's
  executors are built from its *own* provider list only (isolation between instances) is by
  construction of the model (`attach` takes the providers as an argument) and is checked on the
  implementation by the correspondence.
* `Reg` (`Model/Registry.lean`: specs with group / priority / inline callables → priority-ordered
  executors keyed by `name@provider` or `@callable`; the model the driver builds every engine
  scenario's machine with). None of the `C12_reg_*` theorems needs provider ids to be distinct.
* `GExpr` (`Model/Expr.lean`): guards given as boolean expressions, built once per attachment pass
  over the providers of that pass (`constructPasses`).
-/
namespace SMV.Prov

/-- every provider offering the name is keyed in the executor afterwards (`resolveName ex n ps` is what
`attach ex ps [n]` unfolds to) -/
theorem C12_all_providers_called (ex : List Item) (n : Name) (ps : List Provider) (p : Provider)
    (hp : p ∈ ps) (cb : CbId) (ho : offers p n = some cb) :
    hasKey (resolveName ex n ps) n p.id = true :=
  attach_saturates ex ps [n] n (List.mem_singleton_self n) p hp cb ho

/-- **C12 (attached once).** Attaching the same listeners again right away (hence any number of times in a row)
leaves the executor unchanged: no callback is duplicated. With other attachments in between: `C12_reg_reattach`. -/
theorem C12_attach_idempotent (ex : List Item) (ps : List Provider) (ns : List Name) :
    attach (attach ex ps ns) ps ns = attach ex ps ns :=
  attach_saturated _ ps ns fun n hn p hp cb ho => attach_saturates ex ps ns n hn p hp cb ho

/-- **C12 (no duplicates).** An executor never holds two items for one (name, provider). -/
theorem C12_no_duplicate_keys (ex : List Item) (ps : List Provider) (ns : List Name) (h : KeysNodup ex) :
    KeysNodup (attach ex ps ns) := by
  rw [attach_eq]
  exact List.foldlRecOn _ addKey h fun ex h it _ => addKey_keys_nodup ex it h

/-- only items offered by an attached provider (or present before) are in the executor -/
theorem C12_only_offered (ex : List Item) (ps : List Provider) (ns : List Name) (it : Item)
    (h : it ∈ attach ex ps ns) : it ∈ ex ∨ ∃ p ∈ ps, it.name ∈ ns ∧ it.prov = p.id ∧ offers p it.name = some it.cb :=
  mem_attach ex ps ns it h

/-- **C12 (parity).** Whether a provider is "the machine", "the model" or "a listener" is not
representable — a `Provider` is its `id` and `attrs`, so the hypothesis says `ps = qs` and the content of
the theorem is that of the model: `attach` has nothing else to look at. -/
theorem C12_parity (ex : List Item) (ps qs : List Provider) (ns : List Name)
    (h : ps.map (fun p => (p.id, p.attrs)) = qs.map (fun p => (p.id, p.attrs))) :
    attach ex ps ns = attach ex qs ns := by
  have : ps = qs := (List.map_inj_right fun p q h => by cases p; cases q; simpa using h).mp h
  rw [this]

example : attach [] [⟨0, [(5, 50)]⟩, ⟨1, [(5, 51), (6, 61)]⟩] [5, 6] =
    [⟨5, 0, 50⟩, ⟨5, 1, 51⟩, ⟨6, 1, 61⟩] := by decide

end SMV.Prov

namespace SMV.Reg

open SMV.Prov

/-- **C12 (registered once).** The de-duplication keys of an executor are pairwise distinct: every resolved
callback (`name@provider`, or an inline callable; for guards together with the expected truth value, so that
`cond="x"` and `unless="x"` are two guards — D20) is registered exactly once, whatever the specs
(duplicated specs included), however many providers share an id and however often a listener is
attached. -/
theorem C12_reg_keys_nodup (specs : List Spec) (ctor : List Provider) (late : List (List Provider))
    (g : Group) : ((executor specs ctor late g).map (·.dk)).Nodup := by
  rw [executor_eq]
  exact List.foldlRecOn (motive := fun ex => (ex.map (·.dk)).Nodup) _ add (b := []) List.nodup_nil
    fun ex h e _ => add_keys_nodup ex e h

/-- **C12 (call order = priority order).** Priorities never decrease along an executor. -/
theorem C12_reg_sorted (specs : List Spec) (ctor : List Provider) (late : List (List Provider))
    (g : Group) : ((executor specs ctor late g).map (·.prio)).Pairwise (· ≤ ·) := by
  rw [executor_eq, List.pairwise_map]
  exact List.foldlRecOn (motive := fun ex => ex.Pairwise (·.prio ≤ ·.prio)) _ add .nil
    fun ex h e _ => add_sorted ex e h

/-- **C12 (only declared specs, only attached providers).** Every entry of an executor carries the
priority / event scope / expected value of a declared spec of that group, and is either that spec's
inline callable or the attribute an attached provider (constructor or some later `add_listener`)
offers under the spec's name. -/
theorem C12_reg_sound (specs : List Spec) (ctor : List Provider) (late : List (List Provider))
    (g : Group) (e : Entry) (he : e ∈ executor specs ctor late g) :
    ∃ s ∈ specs, s.group = g ∧ e.prio = s.prio ∧ e.only = s.only ∧ e.expected = s.expected ∧
      ((∃ cb, s.ref = .callable cb ∧ e.key = .callable cb ∧ e.cb = cb) ∨
       (∃ n p, s.ref = .name n ∧ p ∈ ctor ++ late.flatten ∧ offers p n = some e.cb ∧
          e.key = .named n p.id)) := by
  rw [executor_eq] at he
  obtain ⟨s, hs, hg, hb⟩ := (mem_allEntries ..).mp ((mem_foldl_add _ [] e he).resolve_left List.not_mem_nil)
  refine ⟨s, hs, hg, ?_⟩
  cases hr : s.ref with
  | callable cb =>
    obtain rfl := (mem_buildSpec_callable _ s cb hr e).mp hb
    exact ⟨rfl, rfl, rfl, .inl ⟨cb, rfl, rfl, rfl⟩⟩
  | name n =>
    obtain ⟨p, hp, cb, ho, rfl⟩ := (mem_buildSpec_name _ s n hr e).mp hb
    exact ⟨rfl, rfl, rfl, .inr ⟨n, p, rfl, hp, ho, rfl⟩⟩

/-- **C12 (isolation).** A name-resolved entry belongs to a provider attached to *this* instance:
a listener that was never attached here is never called. -/
theorem C12_reg_isolated (specs : List Spec) (ctor : List Provider) (late : List (List Provider))
    (g : Group) (e : Entry) (he : e ∈ executor specs ctor late g) (n : Name) (pid : ProvId)
    (hk : e.key = .named n pid) : pid ∈ (ctor ++ late.flatten).map (·.id) := by
  obtain ⟨s, _, _, _, _, _, h⟩ := C12_reg_sound specs ctor late g e he
  rcases h with ⟨cb, _, hk', _⟩ | ⟨n', p, _, hp, _, hk'⟩
  · rw [hk] at hk'; cases hk'
  · rw [hk] at hk'
    cases hk'
    exact List.mem_map.mpr ⟨p, hp, rfl⟩

/-- **C12 (all providers of a callback name are called).** Every declared name spec of the group
and every attached provider (constructor or later `add_listener`) offering that name is keyed in
the executor. -/
theorem C12_reg_complete (specs : List Spec) (ctor : List Provider) (late : List (List Provider))
    (g : Group) (s : Spec) (hs : s ∈ specs) (hg : s.group = g) (n : Name) (hr : s.ref = .name n)
    (p : Provider) (hp : p ∈ ctor ++ late.flatten) (cb : CbId) (ho : offers p n = some cb) :
    seen (executor specs ctor late g) (.named n p.id, s.expected) = true := by
  rw [executor_eq, seen_foldl_add]
  exact .inr ⟨_, (mem_allEntries ..).mpr
    ⟨s, hs, hg, (mem_buildSpec_name _ s n hr _).mpr ⟨p, hp, cb, ho, rfl⟩⟩, rfl⟩

/-- **C12 (inline callables are called).** Every inline callable / decorated function declared for
the group is keyed in the executor (it is resolved by the constructor pass, independently of the
providers). -/
theorem C12_reg_complete_callable (specs : List Spec) (ctor : List Provider)
    (late : List (List Provider)) (g : Group) (s : Spec) (hs : s ∈ specs) (hg : s.group = g)
    (cb : CbId) (hr : s.ref = .callable cb) :
    seen (executor specs ctor late g) (.callable cb, s.expected) = true := by
  rw [executor_eq, seen_foldl_add]
  exact .inr ⟨_, (mem_allEntries ..).mpr ⟨s, hs, hg, (mem_buildSpec_callable _ s cb hr _).mpr rfl⟩, rfl⟩

/-- **C12 (attached once).** An `add_listener` call whose listeners are all attached already —
at construction or by any earlier `add_listener` — leaves every executor exactly as it was: nothing
duplicated, nothing reordered. -/
theorem C12_reg_reattach (specs : List Spec) (ctor : List Provider) (late : List (List Provider))
    (ls : List Provider) (g : Group) (h : ∀ p ∈ ls, p ∈ ctor ++ late.flatten) :
    executor specs ctor (late ++ [ls]) g = executor specs ctor late g := by
  rw [executor_snoc]
  refine foldl_add_saturated _ _ fun e he => ?_
  obtain ⟨s, hs, hg, hn, hb⟩ := (mem_passEntries ..).mp he
  obtain ⟨n, hr⟩ := hn rfl
  obtain ⟨p, hp, cb, ho, rfl⟩ := (mem_buildSpec_name ls s n hr e).mp hb
  exact C12_reg_complete specs ctor late g s hs hg n hr p (h p hp) cb ho

/-- `Reg.Entry` derives no `DecidableEq`; the examples below compare entries through their fields -/
def Entry.view (e : Entry) : Key × CbId × Nat × Option EventId × Bool :=
  (e.key, e.cb, e.prio, e.only, e.expected)

/- Non-vacuity: machine `0` offers names 5 and 6, model `1` offers 5, the late listener `2` offers
5 and 7. Priorities: NAMING 30, INLINE 10, GENERIC 0; name 5 is declared twice in group `before`.
The listener `2` is attached late, then once more together with the model. -/
example :
    (executor
      [⟨.before, .name 5, 30, some 3, true⟩, ⟨.before, .callable 90, 10, none, true⟩,
       ⟨.on, .name 5, 10, none, true⟩, ⟨.before, .name 6, 0, none, true⟩,
       ⟨.before, .name 7, 10, none, true⟩, ⟨.before, .name 5, 30, some 3, true⟩]
      [⟨0, [(5, 50), (6, 60)]⟩, ⟨1, [(5, 51)]⟩]
      [[⟨2, [(5, 52), (7, 72)]⟩], [⟨2, [(5, 52), (7, 72)]⟩, ⟨1, [(5, 51)]⟩]]
      .before).map Entry.view =
    [(.named 6 0, 60, 0, none, true),
     (.callable 90, 90, 10, none, true),
     (.named 7 2, 72, 10, none, true),
     (.named 5 0, 50, 30, some 3, true),
     (.named 5 1, 51, 30, some 3, true),
     (.named 5 2, 52, 30, some 3, true)] := by decide +kernel

example :
    (executor
      [⟨.before, .name 5, 30, some 3, true⟩, ⟨.before, .callable 90, 10, none, true⟩,
       ⟨.on, .name 5, 10, none, true⟩, ⟨.before, .name 6, 0, none, true⟩]
      [⟨0, [(5, 50), (6, 60)]⟩, ⟨1, [(5, 51)]⟩]
      [[⟨2, [(5, 52), (7, 72)]⟩], [⟨2, [(5, 52), (7, 72)]⟩]]
      .on).map Entry.view =
    [(.named 5 0, 50, 10, none, true), (.named 5 1, 51, 10, none, true),
     (.named 5 2, 52, 10, none, true)] := by decide +kernel

end SMV.Reg

/-! ## Guards given as boolean expressions, listeners attached late (`GExpr.constructPasses`)

Every attachment pass that provides all names of an entry contributes that entry once more, over its own
providers; the transition is enabled iff the guards of the constructor pass *and* those of every late pass hold:
"a guard name provided by several objects must hold on all of them", attachment by attachment. -/
namespace SMV.GExpr

/-- the guard loop lets the transition through iff every guard of the list holds -/
theorem allLib_true_iff (S : Sem) (ρ : Env) (l : List Guard) :
    (allLib S ρ l).val = some true ↔ ∀ g ∈ l, passes S ρ g = true := by
  rw [(all_lib_py S ρ l).1, allPy_true_iff]

/-- **C12 (late guard expressions).** With the registered guards `gs` of the constructor pass and the guards
`ls` contributed by late passes, the transition is enabled iff both lists pass. -/
theorem C12_late_guards_conj (S : Sem) (ρ : Env) (gs ls : List Guard) :
    (allLib S ρ (gs ++ ls)).val = some true ↔
      (allLib S ρ gs).val = some true ∧ (allLib S ρ ls).val = some true := by
  simp only [allLib_true_iff, List.mem_append, or_imp, forall_and]

/-- the guard loop over a concatenation: the second list is consulted iff the first one passed entirely -/
theorem allLib_append_val (S : Sem) (ρ : Env) (g1 g2 : List Guard) :
    (allLib S ρ (g1 ++ g2)).val =
      match (allLib S ρ g1).val with
      | some true => (allLib S ρ g2).val
      | v => v := by
  -- each loop is decided by its first entry that does not pass
  simp only [(all_lib_py S ρ _).1, allPy_val, List.find?_append]
  cases g1.find? (fun g => !passes S ρ g) with
  | none => rfl
  | some g =>
    simp only [Option.some_or]
    cases (evalPy S ρ g.e).val <;> rfl

/-- no late pass: the constructor's guards alone (the `match` is the identity on `Verdict`) -/
theorem constructPasses_nil (prov : Nat → List Nat) (entries : List (Src × Bool × Bool)) :
    constructPasses prov [] entries =
      match construct prov (entries.map fun en => (en.1, en.2.1)) with
      | .ok gs => .ok gs
      | .invalidDefinition => .invalidDefinition := by
  unfold constructPasses
  cases construct prov (entries.map fun en => (en.1, en.2.1)) <;> rfl

theorem mem_addNew (acc new : List Guard) (g : Guard) : g ∈ addNew acc new ↔ g ∈ acc ∨ g ∈ new := by
  induction new generalizing acc with
  | nil => simp [addNew]
  | cons x xs ih =>
    dsimp only [addNew]
    split
    · rename_i hc
      have : x ∈ acc := by simpa using hc
      rw [ih, List.mem_cons]
      exact ⟨Or.imp_right .inr, fun h => h.elim .inl fun h => h.elim (fun h => .inl (h ▸ this)) .inr⟩
    · rw [ih]
      simp [or_assoc]

/-- nothing is ever removed by an attachment, and what is there stays in front, in order -/
theorem addNew_prefix (acc new : List Guard) : ∃ more, addNew acc new = acc ++ more := by
  induction new generalizing acc with
  | nil => exact ⟨[], by simp [addNew]⟩
  | cons x xs ih =>
    dsimp only [addNew]
    split
    · exact ih acc
    · obtain ⟨m, hm⟩ := ih (acc ++ [x])
      exact ⟨x :: m, by rw [hm]; simp⟩

/-- ignoring the entries whose key was seen gives the same verdict as keeping them all: "attaching the same
listener again never duplicates its calls" costs nothing -/
theorem addNew_enabled (S : Sem) (ρ : Env) (acc new : List Guard) :
    (allLib S ρ (addNew acc new)).val = some true ↔ (allLib S ρ (acc ++ new)).val = some true := by
  simp only [allLib_true_iff, mem_addNew, List.mem_append]

theorem mem_foldl_addNew (gs : List Guard) (lates : List (Nat → List Nat)) (entries : List (Src × Bool × Bool)) (g : Guard) :
    g ∈ lates.foldl (fun acc p => addNew acc (lateGuards p entries)) gs ↔
      g ∈ gs ∨ ∃ p ∈ lates, g ∈ lateGuards p entries := by
  induction lates generalizing gs with
  | nil => simp
  | cons p ps ih =>
    simp [ih, mem_addNew, or_assoc]

/-- a late pass never turns a constructible machine into an error -/
theorem constructPasses_ok (prov : Nat → List Nat) (lates : List (Nat → List Nat)) (entries : List (Src × Bool × Bool))
    (gs : List Guard) (h : construct prov (entries.map fun en => (en.1, en.2.1)) = .ok gs) :
    constructPasses prov lates entries = .ok (lates.foldl (fun acc p => addNew acc (lateGuards p entries)) gs) := by
  unfold constructPasses
  rw [h]

/-- **C12 (several providers, attachment by attachment).** After any number of attachment passes the transition is
enabled iff the constructor's guards hold and, for every pass, the guards that pass resolves hold over its own
providers — whether or not a pass repeats an earlier one. -/
theorem C12_passes_enabled (S : Sem) (ρ : Env) (gs : List Guard) (lates : List (Nat → List Nat))
    (entries : List (Src × Bool × Bool)) :
    (allLib S ρ (lates.foldl (fun acc p => addNew acc (lateGuards p entries)) gs)).val = some true ↔
      (allLib S ρ gs).val = some true ∧ ∀ p ∈ lates, (allLib S ρ (lateGuards p entries)).val = some true := by
  simp only [allLib_true_iff, mem_foldl_addNew]
  constructor
  · intro h
    exact ⟨fun g hg => h g (Or.inl hg), fun p hp g hg => h g (Or.inr ⟨p, hp, hg⟩)⟩
  · rintro ⟨h1, h2⟩ g (hg | ⟨p, hp, hg⟩)
    · exact h1 g hg
    · exact h2 p hp g hg

/-- attaching the same providers again adds nothing -/
theorem addNew_idem (acc new : List Guard) (h : ∀ g ∈ new, g ∈ acc) : addNew acc new = acc := by
  induction new with
  | nil => simp [addNew]
  | cons x xs ih =>
    have hx : acc.contains x = true := by simpa using h x (List.mem_cons_self ..)
    simp only [addNew, hx, if_true]
    exact ih (fun g hg => h g (List.mem_cons_of_mem _ hg))

/-- an entry some name of which the pass does not provide contributes nothing in that pass -/
theorem lateGuards_unknown (prov : Nat → List Nat) (e : E) (x : Bool) (h : (unknowns prov e).isEmpty = false) :
    lateGuards prov [(.parsed e, x, true)] = [] := by
  simp only [lateGuards, List.filterMap_cons, List.filterMap_nil, h, Bool.false_eq_true, if_false]

/-- an entry given as an object (function, property) is not resolved again by `add_listener` -/
theorem lateGuards_by_object (prov : Nat → List Nat) (src : Src) (x : Bool) :
    lateGuards prov [(src, x, false)] = [] := by
  cases src <;> rfl

/-- non-vacuity / the D29 shape: `cond="!n0"`, constructor provider slot 0 (True), late provider slot 1 (False):
two guards, not enabled; had the late provider been a constructor provider: one guard, enabled -/
example :
    let entries : List (Src × Bool × Bool) := [(.parsed (.not (.name 0)), true, true)]
    let ρ : Env := fun s => .bool (s == 0)
    (match constructPasses (fun _ => [0]) [fun _ => [1]] entries with
      | .ok gs => (gs.length, (allLib pySem ρ gs).val) | .invalidDefinition => (0, none)) = (2, some false) ∧
    (match constructPasses (fun _ => [0, 1]) [] entries with
      | .ok gs => (gs.length, (allLib pySem ρ gs).val) | .invalidDefinition => (0, none)) = (1, some true) := by
  decide +kernel

end SMV.GExpr
