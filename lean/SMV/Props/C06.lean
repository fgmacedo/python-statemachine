import SMV.Lemmas.ProtocolFail
import SMV.Src.Expected
/-!
# C06 — Concurrent senders: mutual exclusion, exactly-once, nothing stranded

Property text (`properties.jsonl`, C06): *when several asyncio tasks or OS threads send events to one
machine concurrently, then under every interleaving the callback sequences of different events never
overlap, every accepted event is processed exactly once with each sender's events in the order it
sent them, and once all senders have returned no event is left unprocessed.*

The theorems quantify over every reachable state `Reach fixed atomic s` of the protocol
(`SMV/Model/Protocol.lean`): any number of senders, any number of events, nested sends from callbacks,
any interleaving of the atomic steps.

Which instance is which code: threads + sync engine of `/repo` (with the repair of D15) is
`fixed = true, atomic = false`; asyncio tasks + async engine is `fixed = false, atomic = true`; the sync
engine of the pinned 2.5.0 release is `fixed = false, atomic = false`, for which `C06_stranded_witness` holds.

Partial for the runtime (see DESIGN §7 C06): one `Step` is one source line / one atomic C-level
operation; bytecode-level preemption inside a line and GIL hand-off timing are not modelled; the failure
path (a raising callback clears the queue) is not part of `Step`: the section on failing callbacks below adds it.
-/
namespace SMV.Protocol

/-- At most one sender is between a successful acquire and its release, and the lock is held exactly then;
in particular two senders are never both running callbacks. -/
theorem C06_mutual_exclusion {fixed atomic : Bool} {s : S} (h : Reach fixed atomic s) :
    (∀ i j, inCS (s.pc i) → inCS (s.pc j) → i = j) ∧
    (∀ i j ei ej, s.pc i = .processing ei → s.pc j = .processing ej → i = j ∧ ei = ej) ∧
    (s.lock = true ↔ ∃ i, inCS (s.pc i)) := by
  obtain ⟨hme, hlk⟩ := mutex_inv h
  refine ⟨hme, fun i j ei ej hi hj => ?_, hlk⟩
  obtain rfl := hme i j (hi ▸ trivial) (hj ▸ trivial)
  exact ⟨rfl, Pc.processing.inj (hi.symm.trans hj)⟩

/-- Trace form: the log is one complete `[begin e, end e]` block per processed event, in processing order,
then the begin mark of the event in flight, if any. -/
theorem C06_blocks_serial {fixed atomic : Bool} {s : S} (h : Reach fixed atomic s) :
    s.log = s.processed.flatMap (fun e => [Mark.beg e, Mark.fin e]) ++
      (match s.cur with | some e => [Mark.beg e] | none => []) := by
  rw [serial_inv h]
  cases s.cur <;> rfl

theorem serial_next {ps : List Ev} {c : Option Ev} {l1 l2 : List Mark} {e : Ev} {m : Mark}
    (h : ps.flatMap block ++ openBlock c = l1 ++ Mark.beg e :: m :: l2) : m = Mark.fin e := by
  induction ps generalizing l1 with
  -- at most one mark on the left, at least two on the right
  | nil => cases c <;> rcases l1 with _ | ⟨_, _ | _⟩ <;> cases h
  | cons p ps ih =>
    -- the log starts with the block of `p`: `begin e` opens it, or lies beyond it
    rcases l1 with _ | ⟨_, _ | _⟩
    · cases h; rfl
    · cases h
    · exact ih (List.tail_eq_of_cons_eq (List.tail_eq_of_cons_eq h))

/-- Never-overlap form: no mark of another event falls between the begin and the end of an event's callback
sequence. -/
theorem C06_no_overlap {fixed atomic : Bool} {s : S} (h : Reach fixed atomic s)
    (l1 l2 : List Mark) (e : Ev) (m : Mark) (hl : s.log = l1 ++ Mark.beg e :: m :: l2) :
    m = Mark.fin e :=
  serial_next ((serial_inv h).symm.trans hl)

/-- Every accepted event is, at any time, in exactly one of "already processed", "being processed", "still
queued", and the order is the put order. -/
theorem C06_exactly_once_in_order {fixed atomic : Bool} {s : S} (h : Reach fixed atomic s) :
    s.processed ++ s.cur.toList ++ s.queue = s.history ∧
    (∀ i e, s.pc i = .processing e → s.cur = some e) :=
  ⟨(fifo_inv h).2.2, (fifo_inv h).1⟩

/-- Counting form of exactly-once. -/
theorem C06_count {fixed atomic : Bool} {s : S} (h : Reach fixed atomic s) (e : Ev) :
    s.processed.count e + s.cur.toList.count e + s.queue.count e = s.history.count e := by
  rw [← (fifo_inv h).2.2]
  simp [List.count_append, Nat.add_assoc]

/-- Each sender's events are processed in the order that sender put them: the FIFO equation restricted to the
events of sender `i`. -/
theorem C06_per_sender_order {fixed atomic : Bool} {s : S} (h : Reach fixed atomic s) (i : Nat) :
    (s.processed ++ s.cur.toList ++ s.queue).filter (fun e => e.sender == i)
      = s.history.filter (fun e => e.sender == i) ∧
    s.processed <+: s.history := by
  obtain ⟨_, _, hfifo⟩ := fifo_inv h
  refine ⟨by rw [hfifo], ?_⟩
  rw [← hfifo, List.append_assoc]
  exact List.prefix_append _ _

/-- For the repaired thread protocol (`fixed`) and for the asyncio variant (`atomic`): once all senders
have returned, the queue is empty and every event ever put has been processed, in put order. -/
theorem C06_nothing_stranded {fixed atomic : Bool} {s : S} (hfa : fixed = true ∨ atomic = true)
    (h : Reach fixed atomic s) (hq : ∀ i, s.pc i = .idle) :
    s.queue = [] ∧ s.processed = s.history := by
  have hqe : s.queue = [] := Decidable.byContradiction fun hne => by
    obtain ⟨i, hi⟩ := live_inv hfa h hne
    rwa [hq i] at hi
  obtain ⟨_, h2, h3⟩ := fifo_inv h
  refine ⟨hqe, ?_⟩
  rw [← h3, hqe, h2 fun i => by rw [hq i]; rfl]
  simp

/-- Senders never wait for each other: a sender that has not returned can always take a step. (The proof exhibits a
step of sender `i`; the statement itself only says that some step is enabled in `s`.) -/
theorem C06_nonblocking {fixed atomic : Bool} (s : S) (i : Nat) (hi : s.pc i ≠ .idle) :
    ∃ s', Step fixed atomic s s' := by
  cases hp : s.pc i with
  | idle => exact absurd hp hi
  | putDone =>
    cases hl : s.lock
    · exact ⟨_, .acqOk s i hp hl⟩
    · exact ⟨_, .acqFail s i hp hl⟩
  | check =>
    cases hq : s.queue with
    | nil =>
      cases atomic
      · exact ⟨_, .empty s i hp hq rfl⟩
      · exact ⟨_, .emptyRelease s i hp hq rfl⟩
    | cons e q => exact ⟨_, .pop s i e q hp hq⟩
  | processing e => exact ⟨_, .done s i e hp⟩
  | exiting => exact ⟨_, .release s i hp⟩
  | recheck =>
    cases hq : s.queue with
    | nil => exact ⟨_, .recheckEmpty s i hp hq⟩
    | cons e q => exact ⟨_, .recheckMore s i hp (by simp [hq])⟩

/-- The D15 schedule: sender 0 drains its own event and sees the queue empty; before it releases,
sender 1 enqueues and fails to acquire; sender 0 releases and returns. -/
def strandingSchedule : List Label :=
  [.put 0 7, .acqOk 0, .pop 0, .done 0, .empty 0, .put 1 8, .acqFail 1, .release 0]

/-- As the sync engine was before the repair of D15 (`fixed = false`, `atomic = false`): a reachable state in
which every sender has returned and an event is still queued. -/
theorem C06_stranded_witness :
    ∃ s, Reach false false s ∧ (∀ i, s.pc i = .idle) ∧ s.queue = [⟨1, 8⟩] ∧ s.processed = [⟨0, 7⟩] :=
  -- the schedule moves senders 0 and 1 only: every comparison of `set` is decided by evaluation
  ⟨(run? false false init strandingSchedule).getD init, reach_run .init (ls := strandingSchedule) rfl,
    fun | 0 => rfl | 1 => rfl | _ + 2 => rfl, rfl, rfl⟩

/-- The same schedule is not stranding in the repaired protocol: sender 0 re-checks, re-enters the loop
and processes the late event. -/
def repairedSchedule : List Label :=
  [.put 0 7, .acqOk 0, .pop 0, .done 0, .empty 0, .put 1 8, .acqFail 1, .release 0,
   .recheckMore 0, .acqOk 0, .pop 0, .nested 0 9, .done 0, .pop 0, .done 0, .empty 0, .release 0, .recheckEmpty 0]

/-- Non-vacuity of `C06_nothing_stranded`, `C06_exactly_once_in_order`, `C06_per_sender_order`: two senders,
a late enqueue in the D15 window and a nested send. -/
example : ∃ s, Reach true false s ∧ (∀ i, s.pc i = .idle) ∧
    s.processed = [⟨0, 7⟩, ⟨1, 8⟩, ⟨0, 9⟩] ∧ s.history = [⟨0, 7⟩, ⟨1, 8⟩, ⟨0, 9⟩] ∧ s.queue = [] :=
  ⟨(run? true false init repairedSchedule).getD init, reach_run .init (ls := repairedSchedule) rfl,
    fun | 0 => rfl | 1 => rfl | _ + 2 => rfl, rfl, rfl, rfl⟩

/-- Non-vacuity for the asyncio variant and of `C06_mutual_exclusion` / `C06_blocks_serial`: task 0 is running
the callbacks of its event while task 1 and task 2 have enqueued and task 1 already returned. -/
example : ∃ s, Reach false true s ∧ s.pc 0 = .processing ⟨0, 1⟩ ∧ s.pc 1 = .idle ∧ s.pc 2 = .putDone ∧
    s.lock = true ∧ s.queue = [⟨1, 2⟩, ⟨2, 3⟩] ∧ s.log = [.beg ⟨0, 1⟩] := by
  let ls : List Label := [.put 0 1, .acqOk 0, .pop 0, .put 1 2, .acqFail 1, .put 2 3]
  exact ⟨(run? false true init ls).getD init, reach_run .init (ls := ls) rfl, rfl, rfl, rfl, rfl, rfl, rfl⟩

/-- Non-vacuity of `C06_no_overlap`. -/
example : ∃ s, Reach true false s ∧ s.log = [.beg ⟨0, 1⟩, .fin ⟨0, 1⟩, .beg ⟨1, 2⟩, .fin ⟨1, 2⟩] := by
  let ls : List Label := [.put 0 1, .put 1 2, .acqOk 1, .acqFail 0, .pop 1, .done 1, .pop 1, .done 1]
  exact ⟨(run? true false init ls).getD init, reach_run .init (ls := ls) rfl, rfl⟩

end SMV.Protocol

/-! ## With failing callbacks and cancelled drainers (`SMV/Lemmas/ProtocolFail.lean`)

What the property does not exclude on the failure path — and what the cancelled-sender probe of the check looks at on
the real engine — for the protocol extended by `fail` / `releaseF` steps, under every interleaving: -/
namespace SMV.Protocol

/-- **C06 (mutual exclusion, failures included).** At most one sender is between a successful acquire and its
release, and the lock is held exactly then — also while a failing sender is between its `clear()` and its `finally`. -/
theorem C06_mutual_exclusion_failures {fixed atomic} {x : SF} (h : ReachF fixed atomic x) : Mutex x.s :=
  (reachF_inv h).1

/-- **C06 (no overlap, failures included).** The log holds as many begin marks as end marks, plus one iff an event
is in flight. A count only: as a step appends at most one mark, begin and end marks alternate along the log; that the
end mark is the same event's is `SerialF`, which `reachF_inv` proves and `Balanced` follows from. -/
theorem C06_no_overlap_failures {fixed atomic} {x : SF} (h : ReachF fixed atomic x) : Balanced x.s :=
  (reachF_inv h).2.2.1.balanced

/-- **C06 (at most once, in order, failures included).** Processed, in-flight and queued events, in that order,
are a sub-sequence of the enqueued ones: a failure drops events (the cleared queue, the event that failed), it never
repeats or reorders one. -/
theorem C06_at_most_once_failures {fixed atomic} {x : SF} (h : ReachF fixed atomic x) : AtMostOnce x.s :=
  (reachF_inv h).2.2.2

/-! ## The two flags of the protocol, read off the source-derived scripts of `processing_loop`

`fixed` and `atomic` are not assumptions about the tree under test: they are computed from the scripts that
`harness/srcgen.py` derives from `engines/sync.py` / `engines/async_.py` on every run (DESIGN 11.6). -/

open SMV.Src in
/-- the loop re-checks the queue after releasing the lock (the repair of D15) -/
def fixedOf (script : List PStmt) : Bool := script.contains .recheck

open SMV.Src in
/-- the loop is a coroutine whose only suspension point is the awaited `_trigger`: between the last emptiness test
and the release nothing else can run (asyncio's cooperative scheduling) -/
def atomicOf (script : List PStmt) : Bool :=
  script.any fun st => match st with
    | .drain awaited _ => awaited
    | _ => false

/-- the sync engine's loop has the re-check and is not atomic (threads, D15 repaired); the async engine's loop has
no re-check and is atomic -/
theorem C06_script_flags :
    fixedOf Src.Expected.processSync = true ∧ atomicOf Src.Expected.processSync = false ∧
    fixedOf Src.Expected.processAsync = false ∧ atomicOf Src.Expected.processAsync = true := by decide

/-- **C06 (nothing stranded), for the loops as the source writes them**: the sync engine's loop among threads and the
async engine's loop among tasks. -/
theorem C06_nothing_stranded_scripts {s : S} (script : List Src.PStmt)
    (hs : script = Src.Expected.processSync ∨ script = Src.Expected.processAsync)
    (h : Reach (fixedOf script) (atomicOf script) s) (hq : ∀ i, s.pc i = .idle) :
    s.queue = [] ∧ s.processed = s.history := by
  refine C06_nothing_stranded ?_ h hq
  rcases hs with rfl | rfl
  · exact Or.inl C06_script_flags.1
  · exact Or.inr C06_script_flags.2.2.2

/-- the sync engine's script with the re-check taken out (the loop as it was before D15) has both flags `false`: it is
the instance `Reach false false` of the protocol, in which `C06_stranded_witness` strands an event -/
theorem C06_stranded_without_recheck :
    fixedOf (Src.Expected.processSync.filter (· != .recheck)) = false ∧
    atomicOf (Src.Expected.processSync.filter (· != .recheck)) = false := by decide

end SMV.Protocol

