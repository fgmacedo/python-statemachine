import SMV.Lemmas.Diagram
import SMV.Lemmas.ListAux
/-!
# C18 — The generated diagram is a faithful picture of the machine

Property text: *the DOT graph generated for any machine has exactly one node per state plus the
initial pseudo-node pointing at the initial state, exactly one edge per external transition from its
source to its target labelled with its events and guards, internal transitions listed inside their
state rather than as edges, final states drawn with a double border, and for an instance exactly
the current state highlighted.*

`getGraph m sub` (`SMV.Model.Diagram`) is the model of `DotGraphMachine(sub).get_graph()`. The
statements use a vocabulary written from the property text (`externals`, `edgeOfTrans`,
`DistinctIds`, `dropInternal`), not from the code. The hypothesis "no state is called `i`" of the
node theorems is necessary: `C18_state_named_i_clashes` (a defect of the code, reported as a known
finding). `C18_edge_label_text`, the text of an edge label, goes beyond the property text.
-/

namespace SMV.Diagram

/-- the (source state, transition) pairs whose transition is external, i.e. not internal, in
declaration order -/
def externals (m : Machine) : List (StateDef × TransDef) :=
  m.states.flatMap fun s => (s.trans.filter fun t => !t.internal).map fun t => (s, t)

/-- the picture of an external transition: source → target, labelled with its events and guards -/
def edgeOfTrans (p : StateDef × TransDef) : Edge :=
  { src := p.1.id, dst := p.2.target, label := { events := p.2.events, guards := p.2.guards } }

/-- state ids are pairwise distinct (always true for a Python class body) and none of them is the
name of the pseudo-node -/
def DistinctIds (m : Machine) : Prop :=
  (m.states.map (·.id)).Nodup ∧ initId ∉ m.states.map (·.id)

def stripInternal (s : StateDef) : StateDef :=
  { s with trans := s.trans.filter fun t => !t.internal }

def dropInternal (m : Machine) : Machine := ⟨m.states.map stripInternal⟩

/-- **Node ids, in order: the pseudo-node, then the states in declaration order.** -/
theorem C18_node_ids {m : Machine} {sub : Subject} {g : Graph} (h : getGraph m sub = .ok g) :
    g.nodes.map (·.id) = initId :: m.states.map (·.id) := by
  rw [nodes_of_ok h, List.map_cons, List.map_map]
  rfl

/-- **No two nodes share an id** (when state ids are distinct and differ from `i`). -/
theorem C18_node_ids_nodup {m : Machine} {sub : Subject} {g : Graph} (h : getGraph m sub = .ok g)
    (hd : DistinctIds m) : (g.nodes.map (·.id)).Nodup := by
  rw [C18_node_ids h, List.nodup_cons]
  exact ⟨hd.2, hd.1⟩

theorem node_of_state {m : Machine} {sub : Subject} {g : Graph} (h : getGraph m sub = .ok g)
    (hd : DistinctIds m) {s : StateDef} (hs : s ∈ m.states) {n : Node} (hn : n ∈ g.nodes)
    (hid : n.id = s.id) : n = stateNode (currentOf m sub) s := by
  rcases (mem_nodes_of_ok h).mp hn with rfl | ⟨s', hs', rfl⟩
  · exact absurd (List.mem_map.mpr ⟨s, hs, hid.symm⟩) hd.2
  · rw [List.eq_of_map_nodup hd.1 hs' hs hid]

/-- **Exactly one node per state, exactly one pseudo-node.** -/
theorem C18_one_node_per_state {m : Machine} {sub : Subject} {g : Graph}
    (h : getGraph m sub = .ok g) (hd : DistinctIds m) :
    (∀ s ∈ m.states, (g.nodes.map (·.id)).count s.id = 1) ∧
    (g.nodes.map (·.id)).count initId = 1 ∧
    g.nodes.length = m.states.length + 1 := by
  have hnd := C18_node_ids_nodup h hd
  have hids := C18_node_ids h
  refine ⟨fun s hs => ?_, ?_, by simpa using congrArg List.length hids⟩
  · exact hnd.count.trans (if_pos (hids ▸ List.mem_cons_of_mem _ (List.mem_map.mpr ⟨s, hs, rfl⟩)))
  · exact hnd.count.trans (if_pos (hids ▸ List.mem_cons_self))

/-- **The hypothesis "no state is called `i`" cannot be dropped**: for the two-state machine
`a = State(initial=True); i = State(final=True); go = a.to(i)` the graph has two nodes named `i`
(DOT merges them into one node). -/
theorem C18_state_named_i_clashes :
    ∃ (m : Machine) (g : Graph), (m.states.map (·.id)).Nodup ∧ getGraph m .cls = .ok g ∧
      ¬ (g.nodes.map (·.id)).Nodup ∧ (g.nodes.map (·.id)).count initId = 2 := by
  exact ⟨⟨[{ id := "a", name := "A", value := "a", initial := true,
              trans := [{ target := "i", events := ["go"] }] },
            { id := "i", name := "I", value := "i", final := true }]⟩, _, by decide, rfl, by decide, by decide⟩

/-- **Exactly one initial edge: pseudo-node → the initial state, first in the graph, unlabelled.**
`s0` is the initial state of the machine (`huniq`: the only state flagged initial). -/
theorem C18_initial_edge {m : Machine} {sub : Subject} {g : Graph} (h : getGraph m sub = .ok g)
    (hi : initId ∉ m.states.map (·.id)) {s0 : StateDef} (hs0 : s0 ∈ m.states)
    (hini : s0.initial = true) (huniq : ∀ s ∈ m.states, s.initial = true → s = s0) :
    g.edges.head? = some ⟨initId, s0.id, ⟨[], []⟩⟩ ∧
    g.edges.filter (fun e => e.src = initId) = [⟨initId, s0.id, ⟨[], []⟩⟩] := by
  obtain ⟨ini, hfind, he⟩ := edges_of_ok h
  obtain ⟨hmem, hflag⟩ := initialState_some hfind
  obtain rfl : ini = s0 := huniq ini hmem hflag
  rw [he]
  refine ⟨rfl, ?_⟩
  -- no state is called `i`, so no other edge leaves the pseudo-node
  have : (m.states.flatMap stateEdges).filter (fun e => e.src = initId) = [] := by
    rw [List.filter_eq_nil_iff]
    intro e he hc
    obtain ⟨s, hs, t, _, _, rfl⟩ := mem_stateEdges.mp he
    exact hi (List.mem_map.mpr ⟨s, hs, of_decide_eq_true hc⟩)
  rw [List.filter_cons_of_pos (by simp [initEdge]), this]
  rfl

/-- **After the initial edge, the edge list is the list of external transitions**, each drawn from
its source state to its target state and labelled with its events and guards; same order, same
multiplicities (several transitions between one pair of states give several edges). -/
theorem C18_edges_external {m : Machine} {sub : Subject} {g : Graph} (h : getGraph m sub = .ok g) :
    g.edges.tail = (externals m).map edgeOfTrans ∧
    g.edges.length = (externals m).length + 1 := by
  obtain ⟨ini, _, he⟩ := edges_of_ok h
  -- the lemma file's closed form in the vocabulary of the statement: `edgeOfTrans (s, t)` is `transEdge s t`
  have : m.states.flatMap stateEdges = (externals m).map edgeOfTrans := by
    simp only [externals, List.map_flatMap, List.map_map]
    rfl
  rw [he, this]
  exact ⟨rfl, by simp⟩

/-- as a multiset statement: an edge occurs among the non-initial edges exactly as often as external
transitions have that picture -/
theorem C18_edges_count {m : Machine} {sub : Subject} {g : Graph} (h : getGraph m sub = .ok g)
    (e : Edge) : g.edges.tail.count e = ((externals m).map edgeOfTrans).count e :=
  congrArg (·.count e) (C18_edges_external h).1

/-- **Every edge is the initial edge or the picture of an external transition of its source.** -/
theorem C18_edge_sound {m : Machine} {sub : Subject} {g : Graph} (h : getGraph m sub = .ok g) :
    ∀ e ∈ g.edges, (e.src = initId ∧ e.label = ⟨[], []⟩) ∨
      ∃ s ∈ m.states, ∃ t ∈ s.trans, t.internal = false ∧
        e.src = s.id ∧ e.dst = t.target ∧ e.label.events = t.events ∧ e.label.guards = t.guards := by
  obtain ⟨ini, _, heq⟩ := edges_of_ok h
  intro e he
  rw [heq, List.mem_cons, mem_stateEdges] at he
  rcases he with rfl | ⟨s, hs, t, ht, hint, rfl⟩
  · exact Or.inl ⟨rfl, rfl⟩
  · exact Or.inr ⟨s, hs, t, ht, hint, rfl, rfl, rfl, rfl⟩

/-- **Every external transition is drawn.** -/
theorem C18_edge_complete {m : Machine} {sub : Subject} {g : Graph} (h : getGraph m sub = .ok g)
    {s : StateDef} (hs : s ∈ m.states) {t : TransDef} (ht : t ∈ s.trans) (hint : t.internal = false) :
    (⟨s.id, t.target, ⟨t.events, t.guards⟩⟩ : Edge) ∈ g.edges := by
  obtain ⟨ini, _, heq⟩ := edges_of_ok h
  rw [heq]
  exact List.mem_cons_of_mem _ (mem_stateEdges.mpr ⟨s, hs, t, ht, hint, rfl⟩)

/-- **The label of a state's node consists of the state's name, its entry and exit actions and
exactly its internal transitions** (events and actions of each, in order). -/
theorem C18_state_label {m : Machine} {sub : Subject} {g : Graph} (h : getGraph m sub = .ok g)
    (hd : DistinctIds m) {s : StateDef} (hs : s ∈ m.states) {n : Node} (hn : n ∈ g.nodes)
    (hid : n.id = s.id) :
    ∃ l, n.label = some l ∧ l.name = s.name ∧ l.entry = s.enter ∧ l.exit = s.exit ∧
      l.internals = (s.trans.filter (·.internal)).map (fun t => (t.events, t.on)) ∧
      (∀ t ∈ s.trans, t.internal = true → (t.events, t.on) ∈ l.internals) := by
  rw [node_of_state h hd hs hn hid]
  exact ⟨stateLabel s, rfl, rfl, rfl, rfl, rfl, fun t ht hint =>
    List.mem_map.mpr ⟨t, List.mem_filter.mpr ⟨ht, hint⟩, rfl⟩⟩

theorem initialState_dropInternal (m : Machine) :
    initialState (dropInternal m) = (initialState m).map stripInternal := by
  simp only [initialState, dropInternal, List.find?_map]
  rfl

theorem stateEdges_stripInternal (s : StateDef) : stateEdges (stripInternal s) = stateEdges s := by
  simp [stateEdges, stripInternal, List.filter_filter, transEdge]

/-- **Internal transitions are no edges**: deleting every internal transition from the machine
leaves the edge list unchanged. -/
theorem C18_internal_no_edge {m : Machine} {sub : Subject} {g : Graph} (h : getGraph m sub = .ok g) :
    ∃ g', getGraph (dropInternal m) sub = .ok g' ∧ g'.edges = g.edges := by
  obtain ⟨ini, hini, hcur, rfl⟩ := getGraph_eq_ok.mp h
  refine ⟨_, getGraph_eq_ok.mpr ⟨stripInternal ini, by rw [initialState_dropInternal, hini]; rfl, ?_, rfl⟩, ?_⟩
  · intro v hv
    rw [dropInternal, lookupValue_map stripInternal (fun _ => rfl), Option.isSome_map]
    exact hcur v hv
  · simp only [build_edges, dropInternal, List.flatMap_map, stateEdges_stripInternal]
    rfl

/-- **Double border iff final** (single border otherwise). -/
theorem C18_peripheries {m : Machine} {sub : Subject} {g : Graph} (h : getGraph m sub = .ok g)
    (hd : DistinctIds m) {s : StateDef} (hs : s ∈ m.states) {n : Node} (hn : n ∈ g.nodes)
    (hid : n.id = s.id) :
    (n.peripheries = some 2 ↔ s.final = true) ∧ (n.peripheries = some 1 ↔ s.final = false) := by
  rw [node_of_state h hd hs hn hid]
  cases hf : s.final <;> simp [stateNode, hf]

theorem pseudo_not_highlighted : initNode.highlighted = false := rfl

/-- **Class: no node is highlighted.** -/
theorem C18_highlight_class {m : Machine} {g : Graph} (h : getGraph m .cls = .ok g) :
    ∀ n ∈ g.nodes, n.highlighted = false := by
  intro n hn
  rcases (mem_nodes_of_ok h).mp hn with rfl | ⟨s, _, rfl⟩ <;> rfl

/-- **Instance whose model holds no state yet (an async machine before its activation): drawn like the class — every
state, no node highlighted** (D38 repaired). -/
theorem C18_highlight_unset {m : Machine} {g : Graph} (h : getGraph m .unset = .ok g) :
    getGraph m .cls = .ok g ∧ ∀ n ∈ g.nodes, n.highlighted = false := by
  -- the branches of `getGraph` for `.cls` and `.unset` are the same term
  have hc : getGraph m .cls = .ok g := Eq.trans rfl h
  exact ⟨hc, C18_highlight_class hc⟩

/-- **Instance: exactly one node is highlighted, the node of a state `c` whose value is the value
the model stores.** -/
theorem C18_highlight_instance {m : Machine} {v : String} {g : Graph}
    (h : getGraph m (.inst v) = .ok g) (hd : DistinctIds m) :
    ∃ c ∈ m.states, c.value = v ∧ ∀ n ∈ g.nodes, (n.highlighted = true ↔ n.id = c.id) := by
  obtain ⟨ini, _, hcur, _⟩ := getGraph_eq_ok.mp h
  obtain ⟨c, hc⟩ := Option.isSome_iff_exists.mp (hcur v rfl)
  obtain ⟨hcm, hcv⟩ := lookupValue_some hc
  refine ⟨c, hcm, hcv, fun n hn => ?_⟩
  rcases (mem_nodes_of_ok h).mp hn with rfl | ⟨s, hs, rfl⟩
  · exact iff_of_false Bool.false_ne_true fun hc' => hd.2 (List.mem_map.mpr ⟨c, hcm, hc'.symm⟩)
  · simp only [stateNode, currentOf, hc, isCurrent, decide_eq_true_eq]
    exact ⟨fun h => h.2, fun hid => by rw [List.eq_of_map_nodup hd.1 hs hcm hid]; exact ⟨rfl, rfl⟩⟩

/-- **Instance whose current state is `s`: exactly the node of `s` is highlighted** (state values
are pairwise distinct, so "the state whose value the model stores" is `s`). -/
theorem C18_highlight_current_state {m : Machine} {s : StateDef} {g : Graph}
    (hs : s ∈ m.states) (h : getGraph m (.inst s.value) = .ok g) (hd : DistinctIds m)
    (hv : (m.states.map (·.value)).Nodup) :
    ∀ n ∈ g.nodes, (n.highlighted = true ↔ n.id = s.id) := by
  obtain ⟨c, hcm, hcv, hall⟩ := C18_highlight_instance h hd
  rwa [List.eq_of_map_nodup hv hs hcm hcv.symm]

/-- **`get_graph` succeeds** for the class of every machine that has an initial state, and for every
instance whose model stores the value of one of the states. -/
theorem C18_total {m : Machine} (sub : Subject) (hini : ∃ s ∈ m.states, s.initial = true)
    (hsub : sub = .cls ∨ ∃ s ∈ m.states, sub = .inst s.value) : ∃ g, getGraph m sub = .ok g := by
  obtain ⟨ini, hfind⟩ := Option.isSome_iff_exists.mp (initialState_isSome.mpr hini)
  refine ⟨_, getGraph_eq_ok.mpr ⟨ini, hfind, fun v hv => ?_, rfl⟩⟩
  obtain rfl | ⟨s, hs, rfl⟩ := hsub
  · cases hv
  · cases hv
    exact lookupValue_isSome.mpr ⟨s, hs, rfl⟩

/-- **An edge label is the event names separated by blanks; when the transition has guards a second
line `[g1, !g2, …]` follows, an `unless` guard written with a leading `!`.** -/
theorem C18_edge_label_text (l : EdgeLabel) :
    (l.guards = [] → renderEdgeLabel l = " ".intercalate l.events) ∧
    (", ".intercalate (l.guards.map renderGuard) ≠ "" →
      renderEdgeLabel l =
        " ".intercalate l.events ++ "\n[" ++ ", ".intercalate (l.guards.map renderGuard) ++ "]") ∧
    (∀ n, renderGuard ⟨n, true⟩ = n ∧ renderGuard ⟨n, false⟩ = "!" ++ n) := by
  refine ⟨?_, ?_, fun n => ⟨rfl, rfl⟩⟩
  · intro h
    simp [renderEdgeLabel, joinWith, h]
  · intro h
    simp [renderEdgeLabel, joinWith, h]

/-! ## Non-vacuity: a concrete machine with a final state, an internal transition, guards, a
multi-event transition and two transitions between one pair of states -/

def exMachine : Machine :=
  ⟨[{ id := "s0", name := "S0", value := "'s0'", initial := true, enter := ["a1"],
      trans := [{ target := "s1", events := ["go"], guards := [⟨"g1", true⟩, ⟨"g2", false⟩] },
                { target := "s0", internal := true, events := ["tick"], on := ["o1"] },
                { target := "s1", events := ["go", "other"] }] },
    { id := "s1", name := "Nice name", value := "3",
      trans := [{ target := "s2", events := ["stop"] }, { target := "s1", events := ["loop"] }] },
    { id := "s2", name := "S2", value := "'s2'", final := true }]⟩

example : DistinctIds exMachine := ⟨by decide, by decide⟩
example : (exMachine.states.map (·.value)).Nodup := by decide
example : ∃ g, getGraph exMachine (.inst "3") = .ok g ∧ g.nodes.length = 4 ∧ g.edges.length = 5 ∧
    (g.nodes.filter (·.highlighted)).map (·.id) = ["s1"] ∧
    (g.nodes.filter (·.peripheries = some 2)).map (·.id) = ["s2"] := ⟨_, rfl, by decide +kernel⟩
example : (externals exMachine).length = 4 := by decide +kernel
example : ∃ g, getGraph exMachine .cls = .ok g ∧
    renderEdgeLabel (g.edges.getD 1 default).label = "go\n[g1, !g2]" ∧
    renderStateLabel ((g.nodes.getD 1 default).label.getD default) = "S0\nentry / a1\ntick / o1" :=
  ⟨_, rfl, by decide +kernel⟩

end SMV.Diagram
