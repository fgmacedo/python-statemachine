import SMV.Props.C07
import SMV.Model.World
import SMV.Lemmas.DeclFrame
-- `SMV.Props.C07` is imported for `SMV.Bind.C07_local` only: `./check C16` runs `#print axioms` on the names of
-- `C16.index` in a file that imports this module (`harness/framework.py`); no proof here uses it.
/-!
# C16 — Machines are isolated from other instances, classes and definitions

In the model a process is a list of instances, each with its own machine definition and its own
configuration; nothing else is mutable, so operations on other instances (of the same or of other
classes) are invisible to instance `i` (`C16_frame`).

What this rests on (and what the correspondence checks against the real library): there is no
process-wide mutable state shared between instances or classes. The two places where the code as found
has such state are the signature cache (keyed by names: D6; by the callable object itself after the
repair — `SMV.Bind.invokeCached_own`, behind `C07_local`, proves independence from the cache's history)
and `State` objects shared between a base class and a subclass (known finding D7: a subclass that
declares a transition out of an inherited state mutates the base class).
-/
namespace SMV

theorem stepAt_other (ms : List Machine) (o : Opts) (fuel : Nat) (i j : Nat) (op : Op) (w : World)
    (h : i ≠ j) : (stepAt ms o fuel i op w)[j]? = w[j]? := by
  unfold stepAt
  split
  · exact List.getElem?_set_ne h
  · rfl

theorem stepAt_self (ms : List Machine) (o : Opts) (fuel : Nat) (i : Nat) (op : Op) (w : World)
    (m : Machine) (c : Cfg) (hm : ms[i]? = some m) (hc : w[i]? = some c) :
    (stepAt ms o fuel i op w)[i]? = some (stepOp m o fuel op c).1 := by
  unfold stepAt
  simp only [hm, hc]
  exact List.getElem?_set_self (List.getElem?_eq_some_iff.mp hc).1

/-- the operations of the interleaving that address instance `i` -/
def own (i : Nat) (ops : List (Nat × Op)) : List Op := (ops.filter (·.1 == i)).map (·.2)

/-- **C16 (frame).** For every interleaving of operations on every set of instances, the final
configuration of instance `i` equals the result of running its own operations alone. -/
theorem C16_frame (ms : List Machine) (o : Opts) (fuel : Nat) (ops : List (Nat × Op)) (w : World)
    (i : Nat) (m : Machine) (c : Cfg) (hm : ms[i]? = some m) (hc : w[i]? = some c) :
    (runWorld ms o fuel ops w)[i]? = some (runOps m o fuel (own i ops) c) := by
  induction ops generalizing w c with
  | nil => exact hc
  | cons x rest ih =>
    obtain ⟨j, op⟩ := x
    unfold runWorld
    by_cases hji : j = i
    · subst hji
      rw [ih _ _ (stepAt_self ms o fuel j op w m c hm hc)]
      simp [own, runOps]
    · rw [ih _ _ ((stepAt_other ms o fuel j i op w hji).trans hc)]
      simp [own, hji]

/-- **C16 (interleaving).** The log (every callback invocation with its arguments), the state and the queue
of instance `i` do not depend on how its operations were interleaved with those of the others. -/
theorem C16_interleaving_irrelevant (ms : List Machine) (o : Opts) (fuel : Nat)
    (ops ops' : List (Nat × Op)) (w : World) (i : Nat) (m : Machine) (c : Cfg)
    (hm : ms[i]? = some m) (hc : w[i]? = some c) (hown : own i ops = own i ops') :
    (runWorld ms o fuel ops w)[i]? = (runWorld ms o fuel ops' w)[i]? := by
  rw [C16_frame ms o fuel ops w i m c hm hc, C16_frame ms o fuel ops' w i m c hm hc, hown]

/-- no instance is created or lost -/
theorem runWorld_length (ms : List Machine) (o : Opts) (fuel : Nat) (ops : List (Nat × Op)) (w : World) :
    (runWorld ms o fuel ops w).length = w.length := by
  induction ops generalizing w with
  | nil => rfl
  | cons x rest ih =>
    obtain ⟨j, op⟩ := x
    unfold runWorld
    rw [ih]
    unfold stepAt
    split
    · exact List.length_set
    · rfl

end SMV

/-!
## Classes: what defining a subclass does to its base class (known findings D7, D7b)

A base class and its subclasses share the `State` objects; in the declaration model
(`SMV/Model/Decl.lean`) this is the shared store `Cls.trans`, and `state.transitions` is
`outOf c s`.
-/
namespace SMV
open Decl

/-- the base class as it (and every live instance of it) looks after `class Sub(base): p` was executed:
its own registry, the shared store as the subclass left it -/
def Decl.baseAfter (base : Cls) (p : List Stmt) : Cls := { base with trans := (elabClass base p).trans }

/-- **C16 (class level, partial).** `class Sub(base): p` does not change `state.transitions` of any
state of `base`, if

* (a) no statement of `p` creates a transition whose source is an `AnyState` or a state of `base`
  (`Stmt.srcs`: the sources of the `to/from_/itself/any` calls of the statement);
* (b) the store of `base` holds no placeholder event (`Event(name=…)` not yet replaced; a finished class
  has none): `_update_event_references` of the subclass rewrites every transition that still holds a
  placeholder of the same attribute name;
* (c) no `Transition` object of `base`'s store leaves a state of the name of a state that `p` declares. This
  one is owed to the model, which identifies states by name (in the library a re-declared `State` is a new
  object): if the shared store has transitions out of that name, `add_state` finds the events on them *with
  their transition lists* and re-runs `_on_event_defined` on positions of the base's store, e.g. on a
  `from_.any()` of the base, which is expanded again (`C16_fresh_needed`). (c) holds whenever `p` declares
  no name that `base` uses as a source.

Nothing is assumed about `base.pending`, `base.attrs` (the subclass starts from an empty namespace,
`startClass`) or `ref`s in `p` (they resolve to positions created by `p`, or to nothing).

Outside the statement, and false of the library (known finding D7c, `c16.probe_d7c`): a body that
refers to an *attribute of the base class* — `class Sub(Base): again = Base.go`. The body language of
the model cannot say it (a `ref` resolves in the subclass's own, initially empty, namespace); the
library takes the inherited `Event` for a placeholder and renames it inside the transitions it shares
with the base. -/
theorem C16_subclass_frame_partial (base : Cls) (p : List Stmt)
    (hsrc : ∀ st ∈ p, ∀ x ∈ st.srcs, x ≠ .any ∧ ∀ s ∈ base.states, x ≠ .st s.name)
    (hph : ∀ t ∈ base.trans, ∀ e ∈ t.events, ∃ id tl, e = EvRef.real id tl)
    (hfresh : ∀ st ∈ p, ∀ d ∈ st.decls, outOf base d.name = []) :
    ∀ s ∈ base.states, outOf (baseAfter base p) s.name = outOf base s.name := by
  intro s hs
  exact (elabClass_frame base p (fun _ hx => hx.1) hsrc (fun t ht => noPh_of_real (hph t ht))
    fun st hst d hd => outOf_eq_nil.mp (hfresh st hst d hd)).outOf s.name fun _ ht => ht.2 s hs

/-- the machine the base class denotes (everything the engine uses) is the same before and after the
subclass was defined. `toMachine` reads `states`, `outOf` of the registered states and `stateIdx` (a
function of `states`) only, so this is the frame theorem by congruence. -/
theorem C16_subclass_machine (env : Env) (base : Cls) (p : List Stmt)
    (hsrc : ∀ st ∈ p, ∀ x ∈ st.srcs, x ≠ .any ∧ ∀ s ∈ base.states, x ≠ .st s.name)
    (hph : ∀ t ∈ base.trans, ∀ e ∈ t.events, ∃ id tl, e = EvRef.real id tl)
    (hfresh : ∀ st ∈ p, ∀ d ∈ st.decls, outOf base d.name = []) :
    toMachine env (baseAfter base p) = toMachine env base := by
  have h := C16_subclass_frame_partial base p hsrc hph hfresh
  refine congrArg (fun l => { toMachine env base with states := l }) (List.map_congr_left fun s hs => ?_)
  unfold toStateDef
  rw [h s hs]
  rfl

namespace C16ex
def sA : SDecl := { name := 0, initial := true }
def sB : SDecl := { name := 1 }
def sZ : SDecl := { name := 2, final := true }
def nokw : Kw := {}
def go : Name := 10
def back : Name := 11
def stop : Name := 12
def x : Name := 13

/-- a finished base class: three states, two transitions -/
def base : Cls := elabClass {} [.state sA, .state sB, .state sZ,
  .assign go (.to 0 [1] nokw), .assign back (.to 1 [0] nokw)]

/-- a finished base class that uses `stop = sZ.from_.any()` -/
def baseAny : Cls := elabClass {} [.state sA, .state sB, .state sZ,
  .assign go (.to 0 [1] nokw), .assign stop (.fromAny 2 nokw)]
end C16ex
open C16ex

/-- hypothesis (b) of `C16_subclass_frame_partial` in a form `decide` can check on a given store -/
def Decl.EvRef.isReal : EvRef → Bool
  | .real _ _ => true
  | .ph _ => false

theorem Decl.real_of_isReal {l : List TDef} (h : ∀ t ∈ l, ∀ e ∈ t.events, e.isReal = true) :
    ∀ t ∈ l, ∀ e ∈ t.events, ∃ id tl, e = EvRef.real id tl := by
  intro t ht e he
  have := h t ht e he
  cases e with
  | real id tl => exact ⟨id, tl, rfl⟩
  | ph v => cases this

/-- **D7** (hypothesis (a) is needed): a subclass that declares a transition out of an inherited
state adds it to the base class's state. -/
theorem C16_D7_witness :
    outOf (baseAfter base [.assign x (.to 0 [1] nokw)]) 0 ≠ outOf base 0 := by decide +kernel

/-- **D7b**, the code before the repair: with a base that declares `stop = s2.from_.any()`, merely
defining an *empty* subclass expanded the `any()` again into the shared `State` objects. -/
theorem C16_D7b_as_is_witness :
    outOf { baseAny with trans := (elabClassAsIs baseAny []).trans } 0 ≠ outOf baseAny 0 := by decide +kernel

/-- **D7b** after the repair: the same base, the empty subclass — an instance of the frame theorem. -/
theorem C16_D7b_fixed_instance :
    ∀ s ∈ baseAny.states, outOf (baseAfter baseAny []) s.name = outOf baseAny s.name :=
  C16_subclass_frame_partial baseAny [] (List.forall_mem_nil _) (real_of_isReal (by decide +kernel))
    (List.forall_mem_nil _)

/-- hypothesis (c) is needed in the model: re-declaring the name of a base state in the subclass re-runs
`_on_event_defined` for the events found on the base's transitions of that name — here the base's
`any()` is expanded again -/
theorem C16_fresh_needed :
    (∀ st ∈ [Stmt.state sA], ∀ x ∈ st.srcs, x ≠ .any ∧ ∀ s ∈ baseAny.states, x ≠ .st s.name) ∧
    outOf (baseAfter baseAny [.state sA]) 1 ≠ outOf baseAny 1 := by decide +kernel

/-- non-vacuity of `C16_subclass_frame_partial`: a base with 3 states and 2 transitions, a subclass
that adds a state and two transitions out of it (one via a decorator and a `ref`); all hypotheses
hold, and the shared store did change -/
example : (∀ s ∈ base.states,
      outOf (baseAfter base [.state { name := 3 }, .assign x (.to 3 [0] nokw),
        .decorated (.or (.from_ 1 [3] nokw) (.ref x)) stop 5]) s.name = outOf base s.name) ∧
    (baseAfter base [.state { name := 3 }, .assign x (.to 3 [0] nokw),
        .decorated (.or (.from_ 1 [3] nokw) (.ref x)) stop 5]).trans ≠ base.trans ∧
    2 ≤ base.states.length ∧ 2 ≤ base.trans.length :=
  ⟨C16_subclass_frame_partial base _ (by decide +kernel) (real_of_isReal (by decide +kernel)) (by decide +kernel),
    by decide +kernel, by decide +kernel, by decide +kernel⟩

end SMV
