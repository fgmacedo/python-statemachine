import SMV.Lemmas.NoSends
/-!
# C01 — Transition selection follows the declared machine

`choose` is the specification, written from the English statement: walk the transitions leaving the current state in
declaration order; skip those not bound to the event; a raising validator aborts the whole event; the first one whose
`cond` guards are all truthy and `unless` guards all falsy fires; none → not allowed. The engine's candidate loop
(`tryCands`, `trigger`) realises it, for every machine, every event (declared or not), every guard valuation and
validator plan `act`. Guards are assumed not to raise (a raising guard is C04's subject).
-/
namespace SMV

inductive Choice
  | fire (tr : Transn)
  | notAllowed
  | abort (x : Nat)
deriving Repr

def choose (m : Machine) (act : CbId → Act) (ev : EventId) : List Transn → Choice
  | [] => .notAllowed
  | tr :: rest =>
    if tr.events.contains ev then
      match firstRaise act tr.validators with
      | some x => .abort x
      | none => if guardsPass m act tr.conds then .fire tr else choose m act ev rest
    else choose m act ev rest

def actionCbs (m : Machine) (ev : EventId) (tr : Transn) : List CbId :=
  groupCbs m ev tr .before ++ groupCbs m ev tr .exit ++ groupCbs m ev tr .on ++
  groupCbs m ev tr .enter ++ groupCbs m ev tr .after

def firedResult (m : Machine) (act : CbId → Act) (ev : EventId) (tr : Transn) : Res :=
  unwrap ((groupCbs m ev tr .before).map (fun cb => rtcRet m (act cb)) ++
          (groupCbs m ev tr .on).map (fun cb => rtcRet m (act cb)))

section
variable {m : Machine} {t : Trigger} {act : CbId → Act} (B : Beh m t act)
include B

/-- a raising validator aborts: the exception escapes, the state is unchanged -/
theorem activate_abort (tr : Transn) (x : Nat) (hv : firstRaise act tr.validators = some x) (c : Cfg) :
    (activate nestedRtc m t tr c).2 = .error (.user x) ∧ (activate nestedRtc m t tr c).1.cur = c.cur := by
  have h : (activatePre nestedRtc m t tr c).2 = .error (.user x) := by
    simp only [activatePre, EM.bind_eq, runGroup_res B, hv]
  unfold activate
  rw [EM.bind_err h]
  exact ⟨rfl, (activatePre_same m t tr c).cur⟩

/-- failing guards reject the candidate: no action runs, the state is unchanged -/
theorem activate_reject (tr : Transn) (hv : firstRaise act tr.validators = none)
    (hg : ∀ p ∈ tr.conds, (act p.1).raises = none)
    (hp : guardsPass m act tr.conds = false) (c : Cfg) :
    (activate nestedRtc m t tr c).2 = .ok none ∧ (activate nestedRtc m t tr c).1.cur = c.cur := by
  have h : (activatePre nestedRtc m t tr c).2 = .ok none := by
    simp only [activatePre, EM.bind_eq, runGroup_res B, runConds_res B _ _ _ hg, hv, hp]
    rfl
  unfold activate
  rw [EM.bind_ok h]
  exact ⟨rfl, (activatePre_same m t tr c).cur⟩

/-- passing guards fire the transition: target state, documented result -/
theorem activate_fire (tr : Transn) (hv : firstRaise act tr.validators = none)
    (hg : ∀ p ∈ tr.conds, (act p.1).raises = none)
    (hp : guardsPass m act tr.conds = true)
    (ha : ∀ cb ∈ actionCbs m t.event tr, (act cb).raises = none) (c : Cfg) :
    (activate nestedRtc m t tr c).2 = .ok (some (firedResult m act t.event tr)) ∧
    (activate nestedRtc m t tr c).1.cur = some (stateVal m tr.target) := by
  -- one hypothesis per action group, in the form `runGroup_res` reads
  simp only [actionCbs, groupCbs, List.forall_mem_append, ← firstRaise_none_iff] at ha
  obtain ⟨⟨⟨⟨hb, hx⟩, ho⟩, he⟩, hf⟩ := ha
  -- every bind of `_activate` is decided by the result of its first part, and that by `act`
  have h2 : (activate nestedRtc m t tr c).2 = .ok (some (firedResult m act t.event tr)) := by
    simp only [activate, activatePre, activatePost, EM.bind_eq, runGroup_res B, runConds_res B _ _ _ hg,
      hv, hp, hb, hx, ho, he, hf, Bool.not_true, Bool.false_eq_true, ↓reduceIte, EM.pure_apply, setState_snd]
    rfl
  exact ⟨h2, activate_cur m t tr c _ h2⟩
end

/-! The outcome of an event as a function of the choice: the theorems stated with a `match` on the choice are readings
of one pair of equations (`tryCands_outcome`, `trigger_outcome`). -/

/-- the hypothesis under which the outcome is a function of the choice -/
def Choice.clean (m : Machine) (act : CbId → Act) (ev : EventId) : Choice → Prop
  | .fire tr => ∀ cb ∈ actionCbs m ev tr, (act cb).raises = none
  | _ => True

def Choice.res (m : Machine) (act : CbId → Act) (ev : EventId) : Choice → Except Exc (Option Res)
  | .fire tr => .ok (some (firedResult m act ev tr))
  | .notAllowed => .ok none
  | .abort x => .error (.user x)

def Choice.cur (m : Machine) (old : Option Val) : Choice → Option Val
  | .fire tr => some (stateVal m tr.target)
  | _ => old

section
variable {m : Machine} {t : Trigger} {act : CbId → Act} (B : Beh m t act)
include B

theorem tryCands_outcome (trs : List Transn)
    (hg : ∀ tr ∈ trs, ∀ p ∈ tr.conds, (act p.1).raises = none) (c : Cfg) :
    (choose m act t.event trs).clean m act t.event →
      (tryCands nestedRtc m t trs c).2 = (choose m act t.event trs).res m act t.event ∧
      (tryCands nestedRtc m t trs c).1.cur = (choose m act t.event trs).cur m c.cur := by
  fun_induction choose m act t.event trs generalizing c with
  | case1 => exact fun _ => ⟨rfl, rfl⟩
  | case2 tr rest hm x hv =>
    have := activate_abort B tr x hv c
    rw [tryCands_cons_match hm, EM.bind_err this.1]
    exact fun _ => ⟨rfl, this.2⟩
  | case3 tr rest hm hv hp =>
    intro ha
    have := activate_fire B tr hv (hg tr List.mem_cons_self) hp ha c
    rw [tryCands_cons_match hm, EM.bind_ok this.1]
    exact ⟨rfl, this.2⟩
  | case4 tr rest hm hv hp ih =>
    have := activate_reject B tr hv (hg tr List.mem_cons_self) (Bool.eq_false_iff.2 hp) c
    -- `← this.2`: `c.cur` in the goal becomes the field after the rejected candidate, where `ih` applies
    rw [tryCands_cons_match hm, EM.bind_ok this.1, ← this.2]
    exact ih (fun tr' h' => hg tr' (.tail _ h')) _
  | case5 tr rest hm ih =>
    rw [tryCands_cons_skip (Bool.eq_false_iff.2 hm)]
    exact ih (fun tr' h' => hg tr' (.tail _ h')) c

/-- **C01 (candidate loop).** The engine's candidate loop realises `choose`. -/
theorem tryCands_choose (trs : List Transn)
    (hg : ∀ tr ∈ trs, ∀ p ∈ tr.conds, (act p.1).raises = none) (c : Cfg) :
    match choose m act t.event trs with
    | .abort x => (tryCands nestedRtc m t trs c).2 = .error (.user x) ∧
                  (tryCands nestedRtc m t trs c).1.cur = c.cur
    | .notAllowed => (tryCands nestedRtc m t trs c).2 = .ok none ∧
                     (tryCands nestedRtc m t trs c).1.cur = c.cur
    | .fire tr => (∀ cb ∈ actionCbs m t.event tr, (act cb).raises = none) →
                  (tryCands nestedRtc m t trs c).2 = .ok (some (firedResult m act t.event tr)) ∧
                  (tryCands nestedRtc m t trs c).1.cur = some (stateVal m tr.target) := by
  have key := tryCands_outcome B trs hg c
  generalize choose m act t.event trs = ch at key ⊢
  cases ch with
  | fire tr => exact key
  | _ => exact key trivial

/-- `hi`: any event but the engine's own activation trigger — the reserved name sent by somebody else while a state
is held is an ordinary event -/
theorem trigger_outcome (hi : (t.event == initialEv) = false ∨ t.internal = false) (c : Cfg) (s : StateId)
    (hs : c.cur.bind (lookupState m) = some s)
    (hg : ∀ tr ∈ out m s, ∀ p ∈ tr.conds, (act p.1).raises = none) :
    (choose m act t.event (out m s)).clean m act t.event →
      (trigger nestedRtc m t c).2 = finish m t s ((choose m act t.event (out m s)).res m act t.event) ∧
      (trigger nestedRtc m t c).1.cur = (choose m act t.event (out m s)).cur m c.cur := fun hc => by
  have := tryCands_outcome B (out m s) hg c hc
  rw [trigger_event nestedRtc m hi hs, this.1]
  exact ⟨rfl, this.2⟩

/-- **C01 (one event).** For an event other than `__initial__`, with `s` the current state,
* `choose = fire tr`: the machine ends in `tr.target` and the event returns the documented result
  (when no action callback of `tr` raises);
* `choose = notAllowed`: the state is unchanged and `TransitionNotAllowed(event, s)` is raised, or
  `None` is returned when `allow_event_without_transition`;
* `choose = abort x`: the validator's exception escapes with the state unchanged. -/
theorem C01_trigger (hne : (t.event == initialEv) = false) (c : Cfg) (s : StateId)
    (hs : c.cur.bind (lookupState m) = some s)
    (hg : ∀ tr ∈ out m s, ∀ p ∈ tr.conds, (act p.1).raises = none) :
    match choose m act t.event (out m s) with
    | .abort x => (trigger nestedRtc m t c).2 = .error (.user x) ∧ (trigger nestedRtc m t c).1.cur = c.cur
    | .notAllowed =>
        (trigger nestedRtc m t c).2 =
          (if m.allow then .ok (some .none) else .error (.notAllowed t.event s)) ∧
        (trigger nestedRtc m t c).1.cur = c.cur
    | .fire tr => (∀ cb ∈ actionCbs m t.event tr, (act cb).raises = none) →
        (trigger nestedRtc m t c).2 = .ok (some (firedResult m act t.event tr)) ∧
        (trigger nestedRtc m t c).1.cur = some (stateVal m tr.target) := by
  have key := trigger_outcome B (.inl hne) c s hs hg
  generalize choose m act t.event (out m s) = ch at key ⊢
  cases ch with
  | fire tr => exact key
  | _ => exact key trivial
end

/-- `choose` fires the *first* enabled transition in declaration order: everything before it is
either not bound to the event or has no raising validator and a failing guard. -/
theorem choose_fire_first (m : Machine) (act : CbId → Act) (ev : EventId) (trs : List Transn)
    (tr : Transn) (h : choose m act ev trs = .fire tr) :
    ∃ pre post, trs = pre ++ tr :: post ∧ tr.events.contains ev = true ∧
      firstRaise act tr.validators = none ∧ guardsPass m act tr.conds = true ∧
      ∀ tr' ∈ pre, tr'.events.contains ev = false ∨
        (firstRaise act tr'.validators = none ∧ guardsPass m act tr'.conds = false) := by
  fun_induction choose m act ev trs with
  | case1 => cases h
  | case2 => cases h
  | case3 a rest hm hv hp => cases h; exact ⟨[], rest, rfl, hm, hv, hp, List.forall_mem_nil _⟩
  | case4 a rest hm hv hp ih =>
    obtain ⟨pre, post, rfl, e⟩ := ih h
    exact ⟨a :: pre, post, rfl, e.1, e.2.1, e.2.2.1,
      List.forall_mem_cons.2 ⟨.inr ⟨hv, Bool.eq_false_iff.2 hp⟩, e.2.2.2⟩⟩
  | case5 a rest hm ih =>
    obtain ⟨pre, post, rfl, e⟩ := ih h
    exact ⟨a :: pre, post, rfl, e.1, e.2.1, e.2.2.1,
      List.forall_mem_cons.2 ⟨.inl (Bool.eq_false_iff.2 hm), e.2.2.2⟩⟩

/-- event matching is exact membership in the transition's event list (no prefixes, no substrings) -/
theorem matchesEv_iff (tr : Transn) (e : EventId) : matchesEv tr e = true ↔ e ∈ tr.events := by
  simp [matchesEv]

/-- the candidate loop only looks at the transitions bound to the event, in their relative order -/
theorem tryCands_filter (h : Nested) (m : Machine) (t : Trigger) (l : List Transn) :
    tryCands h m t l = tryCands h m t (l.filter (fun tr => tr.events.contains t.event)) :=
  tryCands_filter_matches h m t l

/-- the valuation is re-drawn per event: while the trigger with id `i` is processed, callback `cb` behaves as
`act i cb` -/
def BehT (m : Machine) (act : Nat → CbId → Act) : Prop :=
  ∀ cb inv tid st ev, m.behav cb inv { tid := tid, state := st, event := ev } = act tid cb

theorem BehT.beh {m : Machine} {act : Nat → CbId → Act} (B : BehT m act) (t : Trigger) : Beh m t (act t.tid) :=
  fun cb inv st => B cb inv t.tid st t.event

/-- **C01 (the event at the head of the queue, run-to-completion).** From any configuration — external and nested
events alike; the drain loop ends in an iterate of `drainStep` (`drainLoop_iter`, C03) — whatever is at the head of
the queue is decided by `choose` on the transitions of the state current *at that moment*, with the guard values of
that moment. A validator abort or a `TransitionNotAllowed` drops what was still queued (C04). -/
theorem C01_drain_step {m : Machine} {act : Nat → CbId → Act} (B : BehT m act) (c : Cfg) (t : Trigger)
    (q : List Trigger) (hq : c.queue = t :: q) (hne : (t.event == initialEv) = false) (s : StateId)
    (hs : c.cur.bind (lookupState m) = some s)
    (hg : ∀ tr ∈ out m s, ∀ p ∈ tr.conds, (act t.tid p.1).raises = none) :
    match choose m (act t.tid) t.event (out m s) with
    | .abort _ => (drainStep m c).cur = c.cur ∧ (drainStep m c).queue = []
    | .notAllowed => (drainStep m c).cur = c.cur ∧ (m.allow = false → (drainStep m c).queue = [])
    | .fire tr => (∀ cb ∈ actionCbs m t.event tr, (act t.tid cb).raises = none) →
        (drainStep m c).cur = some (stateVal m tr.target) := by
  have key := trigger_outcome (B.beh t) (.inl hne) { c with queue := q } s hs hg
  have hcur := drainStep_cur m hq
  generalize choose m (act t.tid) t.event (out m s) = ch at key ⊢
  cases ch with
  | fire tr => exact fun ha => hcur.trans (key ha).2
  | notAllowed =>
    obtain ⟨kr, kc⟩ := key trivial
    refine ⟨hcur.trans kc, fun ha => drainStep_queue_of_error m hq (e := .notAllowed t.event s) ?_⟩
    rw [kr]
    simp [Choice.res, finish, ha]
  | abort x => exact ⟨hcur.trans (key trivial).2, drainStep_queue_of_error m hq (key trivial).1⟩

/-- **C01 (every point of every drain).** The state part of `C01_drain_step` at the configuration reached after `n`
iterations of `drainStep` from any `c0`. -/
theorem C01_every_event {m : Machine} {act : Nat → CbId → Act} (B : BehT m act) (c0 : Cfg) (n : Nat) :
    let c := iter (drainStep m) n c0
    ∀ t q, c.queue = t :: q → (t.event == initialEv) = false → ∀ s, c.cur.bind (lookupState m) = some s →
      (∀ tr ∈ out m s, ∀ p ∈ tr.conds, (act t.tid p.1).raises = none) →
      match choose m (act t.tid) t.event (out m s) with
      | .abort _ => (iter (drainStep m) (n + 1) c0).cur = c.cur
      | .notAllowed => (iter (drainStep m) (n + 1) c0).cur = c.cur
      | .fire tr => (∀ cb ∈ actionCbs m t.event tr, (act t.tid cb).raises = none) →
          (iter (drainStep m) (n + 1) c0).cur = some (stateVal m tr.target) := by
  intro c t q hq hne s hs hg
  rw [iter_succ]
  have key := C01_drain_step B c t q hq hne s hs hg
  generalize choose m (act t.tid) t.event (out m s) = ch at key ⊢
  cases ch with
  | fire tr => exact key
  | _ => exact key.1

/-! Any handler (`rtc=False`) when callbacks send no events. (With nested sends under `rtc=False` the nested event runs
in the middle of the outer transition and the final state is the *outer* target only if nothing is sent from
`enter`/`after`; that case is left to the correspondence check (DESIGN.md §5).) -/
section
variable {m : Machine} {t : Trigger} {act : CbId → Act} (B : Beh m t act) (hs : ∀ cb, (act cb).sends = [])
include B hs

/-- **C01 (one event, any processing mode).** `C01_trigger` for an arbitrary handler, in particular the depth-first
`sendNR m fuel` of `rtc=False`. -/
theorem C01_trigger_any_handler (h : Nested) (hne : (t.event == initialEv) = false) (c : Cfg) (s : StateId)
    (hcur : c.cur.bind (lookupState m) = some s)
    (hg : ∀ tr ∈ out m s, ∀ p ∈ tr.conds, (act p.1).raises = none) :
    match choose m act t.event (out m s) with
    | .abort x => (trigger h m t c).2 = .error (.user x) ∧ (trigger h m t c).1.cur = c.cur
    | .notAllowed =>
        (trigger h m t c).2 = (if m.allow then .ok (some .none) else .error (.notAllowed t.event s)) ∧
        (trigger h m t c).1.cur = c.cur
    | .fire tr => (∀ cb ∈ actionCbs m t.event tr, (act cb).raises = none) →
        (trigger h m t c).2 = .ok (some (firedResult m act t.event tr)) ∧
        (trigger h m t c).1.cur = some (stateVal m tr.target) := by
  rw [trigger_any_at (B.noSendsAt hs) h]
  exact C01_trigger B hne c s hcur hg
end

/-- **C01 (`rtc=False`, external send).** An event sent from outside to a machine in depth-first mode whose
callbacks send nothing: decided by `choose`, result and final state as documented. -/
theorem C01_send_nonrtc {m : Machine} {act : CbId → Act} (fuel : Nat) (kind : Kind) (ev : EventId) (c : Cfg)
    (hq : c.queue = []) (B : Beh m { tid := c.nextTid, event := ev } act) (hs : ∀ cb, (act cb).sends = [])
    (hne : (ev == initialEv) = false) (s : StateId) (hcur : c.cur.bind (lookupState m) = some s)
    (hg : ∀ tr ∈ out m s, ∀ p ∈ tr.conds, (act p.1).raises = none) :
    match choose m act ev (out m s) with
    | .abort x => (send m { rtc := false, kind := kind } fuel ev c).2 = .error (.user x) ∧
                  (send m { rtc := false, kind := kind } fuel ev c).1.cur = c.cur
    | .notAllowed =>
        (send m { rtc := false, kind := kind } fuel ev c).2 =
          (if m.allow then .ok .none else .error (.notAllowed ev s)) ∧
        (send m { rtc := false, kind := kind } fuel ev c).1.cur = c.cur
    | .fire tr => (∀ cb ∈ actionCbs m ev tr, (act cb).raises = none) →
        (send m { rtc := false, kind := kind } fuel ev c).2 = .ok (firedResult m act ev tr) ∧
        (send m { rtc := false, kind := kind } fuel ev c).1.cur = some (stateVal m tr.target) := by
  have key := trigger_outcome B (.inl hne) { c with queue := [], nextTid := c.nextTid + 1 } s hcur hg
  have hsend : send m { rtc := false, kind := kind } fuel ev c =
      popTrigger (sendNR m fuel) m
        { c with queue := [{ tid := c.nextTid, event := ev }], nextTid := c.nextTid + 1 } := by
    simp only [send, process, EM.bind_apply, enqueue, EM.modify, hq, List.nil_append]
    rfl
  rw [hsend, popTrigger_cons _ _ rfl, trigger_any_at (B.noSendsAt hs)]
  generalize choose m act ev (out m s) = ch at key ⊢
  cases ch with
  | fire tr =>
    intro ha
    refine ⟨?_, (key ha).2⟩
    rw [(key ha).1]
    rfl
  | notAllowed =>
    refine ⟨?_, (key trivial).2⟩
    rw [(key trivial).1]
    -- `finish` and the statement branch on `m.allow` alike
    simp only [Choice.res, finish]
    split <;> rfl
  | abort x =>
    refine ⟨?_, (key trivial).2⟩
    rw [(key trivial).1]
    rfl

/-! ### Non-vacuity: a concrete machine meeting the hypotheses, three candidates, the second fires -/
section Example
/-- state 0 --ev 5--> {1 (guard cb 1), 2 (guard cb 2), 0 (no guard)}; guard 1 is falsy, guard 2 truthy -/
def exTrs : List Transn :=
  [ { source := 0, target := 1, events := [5], conds := [(1, true)] },
    { source := 0, target := 2, events := [5, 6], conds := [(2, true)], validators := [3] },
    { source := 0, target := 0, events := [5] } ]
def exAct : CbId → Act := fun cb => { ret := if cb == 1 then 0 else 1 }
def exM : Machine :=
  { states := [{ value := 10, initial := true, trans := exTrs }, { value := 11 }, { value := 12 }],
    behav := fun cb _ _ => exAct cb, truthy := fun v => v != 0 }

example : BehT exM (fun _ => exAct) := fun _ _ _ _ _ => rfl
example : ∀ cb, (exAct cb).sends = [] := fun _ => rfl
example : (match choose exM exAct 5 (out exM 0) with | .fire tr => tr.target | _ => 99) = 2 := by decide
example : (match choose exM exAct 6 (out exM 0) with | .fire tr => tr.target | _ => 99) = 2 := by decide
example : (match choose exM exAct 7 (out exM 0) with | .notAllowed => 1 | _ => 0) = 1 := by decide
example : (send exM { rtc := true } 5 5 { cur := some 10 }).1.cur = some 12 := by decide +kernel
example : (send exM { rtc := false } 5 5 { cur := some 10 }).1.cur = some 12 := by decide +kernel
end Example
end SMV
