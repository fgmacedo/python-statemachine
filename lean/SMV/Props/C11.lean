import SMV.Props.C02
/-! # C11 — Initial activation happens once; a stored state is resumed untouched -/
namespace SMV

/-- a machine at rest: nothing queued, lock free -/
def Quiet (c : Cfg) : Prop := c.queue = [] ∧ c.locked = false

theorem processRtc_quiet (m : Machine) (fuel : Nat) (c : Cfg) (h : Quiet c) :
    processRtc m fuel c = (c, .ok .none) := by
  obtain ⟨hq, hl⟩ := h
  -- `← hl`: the lock is put back as `c.locked`, so that the record is `c` again (eta)
  rw [processRtc_unlocked m fuel hl, drainLoop_nil m fuel none (c := { c with locked := true }) hq, ← hl]
  rfl

theorem process_quiet (m : Machine) (o : Opts) (fuel : Nat) (c : Cfg) (h : Quiet c) :
    process m o fuel c = (c, .ok .none) := by
  unfold process
  split
  · exact processRtc_quiet m fuel c h
  · exact popTrigger_nil _ m h.1

/-- **C11 (resume).** Creating a machine over a model that already holds a state runs no
callback, queues nothing and leaves the stored value untouched — sync engine, `rtc` on or off;
async engine likewise (it does not even enter the processing loop). -/
theorem C11_resume (m : Machine) (o : Opts) (fuel : Nat) (c : Cfg) (v : Val)
    (hcur : c.cur = some v) (h : Quiet c) (hvalid : ¬(o.kind = .async ∧ o.rtc = false)) :
    construct m o fuel c = (c, .ok ()) := by
  have hk : (o.kind == Kind.async && !o.rtc) = false :=
    Bool.eq_false_iff.2 fun hb => hvalid (by simpa using hb)
  have hs : start c = (c, .ok ()) := start_some hcur
  simp only [construct, hk, Bool.false_eq_true, if_false, EM.bind_apply, hs]
  -- `start` did nothing; the sync engine goes on to `process` on a quiet machine, the async engine stops here
  split
  · simp only [EM.bind_apply, process_quiet m o fuel c h]
    rfl
  · rfl

/-- **C11 (activating again is a no-op).** `activate_initial_state()` on a machine at rest changes
nothing and returns `None`, in every mode. -/
theorem C11_idempotent (m : Machine) (o : Opts) (fuel : Nat) (c : Cfg) (h : Quiet c) :
    activateOp m o fuel c = (c, .ok .none) :=
  process_quiet m o fuel c h

/-- **C11 (fresh model, what is queued).** Over a model with no state, construction queues exactly
one `__initial__` trigger, under a fresh id. -/
theorem C11_start_fresh (c : Cfg) (hcur : c.cur = none) :
    (start c).1 = { c with queue := c.queue ++ [{ tid := c.nextTid, event := initialEv, internal := true }],
                           nextTid := c.nextTid + 1 } := by
  rw [start_none hcur]
  rfl

/-- the async engine only queues it: activation is deferred to the first entry into the loop -/
theorem C11_async_defers (m : Machine) (fuel : Nat) (c : Cfg) :
    (construct m { rtc := true, kind := .async } fuel c).1 = (start c).1 :=
  EM.bind_pure_fst start _ c

/-- **C11 (async: activation precedes the first event).** After the deferred construction the
first `send e` finds the `__initial__` trigger ahead of `e` in the queue (and the queue is FIFO,
C03), whatever `e` is. -/
theorem C11_async_initial_first (c : Cfg) (e : EventId) (hcur : c.cur = none) (hq : c.queue = []) :
    (enqueue e (start c).1).1.queue =
      [{ tid := c.nextTid, event := initialEv, internal := true }, { tid := c.nextTid + 1, event := e }] := by
  rw [C11_start_fresh c hcur]
  simp [enqueue, EM.modify, hq]

/-- **C11 (the first block is the initial activation).** Processing the `__initial__` trigger
appends only the assignment of the start state's value and that state's enter callbacks
(`InitEntry`, C02); that the value is stored: `C11_initial_stores`. -/
theorem C11_initial_block (m : Machine) (t : Trigger) (ht : t.event = initialEv) (s : StateId)
    (hs : initialTarget m = .ok s) (c : Cfg) (hc : c.cur = none) :
    LogAll (InitEntry m t s) c (trigger nestedRtc m t c).1 := by
  rw [trigger_initial nestedRtc m ht hc, EM.bind_pure_fst]
  exact C02_initial m t s hs c

/-- a stored state does not become "no state" again (`start` queues `__initial__` only when there is none) -/
def SomeStays (c c' : Cfg) : Prop := c.cur.isSome = true → c'.cur.isSome = true

theorem SomeStays.lift : Lift SomeStays (fun _ _ => True) (· = .none) nestedRtc :=
  .rtc (fun _ h => h) (fun _ _ _ h1 h2 h => h2 (h1 h)) (fun _ _ _ _ h => h) (fun _ _ h => h)

theorem C11_state_stays (m : Machine) (t : Trigger) : Resp SomeStays (trigger nestedRtc m t) :=
  trigger_lift SomeStays.lift m t (fun _ _ => entryOk_true _ _) fun _ _ _ => rfl

/-- **C11 (activating again is a no-op, also by name).** On a machine that holds a state the
reserved event `__initial__` is an ordinary undeclared event: it does not re-run the activation. (Stated for any
event no transition of the current state is bound to; `hi`: not the engine's own activation trigger.) -/
theorem C11_initial_name_inert (h : Nested) (m : Machine) (t : Trigger) (c : Cfg) (s : StateId)
    (hi : t.internal = false) (hs : c.cur.bind (lookupState m) = some s) (hno : ∀ tr ∈ out m s, tr.events.contains t.event = false) :
    (trigger h m t c).1 = c := by
  rw [trigger_no_match h m (.inr hi) hs hno]

/-- **C11 (a state stored before a deferred activation is resumed).** The activation trigger an async machine
queued for itself at construction, processed when the model holds a state by then (loaded in the meantime; any
value): nothing runs, nothing is written, no error (D36 repaired; before, it was treated as an undeclared event and
failed the caller's first event). -/
theorem C11_stale_activation (h : Nested) (m : Machine) (tid : Nat) (c : Cfg) (hc : c.cur.isNone = false) :
    trigger h m { tid := tid, event := initialEv, internal := true } c = (c, .ok none) :=
  trigger_stale h m rfl rfl hc

/-- the initial activation stores the start state's value before any enter callback runs -/
theorem C11_initial_stores (m : Machine) (t : Trigger) (s : StateId) (hs : initialTarget m = .ok s) (c : Cfg) :
    (activateInitial nestedRtc m t c).1.cur = some (stateVal m s) :=
  (activateInitial_after Same.lift m t hs (fun cb _ => entryOk_true _ _ _ cb) c).cur

end SMV
