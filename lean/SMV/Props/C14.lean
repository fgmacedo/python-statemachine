import SMV.Props.C01
/-!
# C14 — Event results come only from before/on return values, by the documented rule

`activate_fire`/`C01_trigger` (C01) already show that an executed transition returns exactly `firedResult`, built from
the *applicable* `before` and `on` callbacks (event-named ones filtered by the triggering event: `mem_applicable`);
here: the unwrap rule, "no transition ⇒ None", and that the outermost `send` hands that value back.
-/
namespace SMV

theorem unwrap_nil : unwrap [] = .none := rfl
theorem unwrap_one (v : Val) : unwrap [v] = .one v := rfl
theorem unwrap_many (a b : Val) (l : List Val) : unwrap (a :: b :: l) = .many (a :: b :: l) := rfl

example : unwrap ([] : List Val) = .none ∧ unwrap [0] = .one 0 ∧ unwrap [0, 7] = .many [0, 7] := ⟨rfl, rfl, rfl⟩

/-- the unwrap rule by count: `None`, the value itself, or the whole list -/
theorem unwrap_cases (l : List Val) :
    (l = [] ∧ unwrap l = .none) ∨ (∃ v, l = [v] ∧ unwrap l = .one v) ∨ (2 ≤ l.length ∧ unwrap l = .many l) := by
  match l with
  | [] => exact Or.inl ⟨rfl, rfl⟩
  | [v] => exact Or.inr (Or.inl ⟨v, rfl, rfl⟩)
  | a :: b :: l => exact Or.inr (Or.inr ⟨by simp, rfl⟩)

/-- **C14 (result of an executed transition)**: built from the return values of the applicable
`before` callbacks followed by those of the applicable `on` callbacks, `None` kept, and from
nothing else — validators, guards, exit, enter and after callbacks do not occur in it. -/
theorem C14_result {m : Machine} {t : Trigger} {act : CbId → Act} (B : Beh m t act) (tr : Transn)
    (hv : firstRaise act tr.validators = none)
    (hg : ∀ p ∈ tr.conds, (act p.1).raises = none)
    (hp : guardsPass m act tr.conds = true)
    (ha : ∀ cb ∈ actionCbs m t.event tr, (act cb).raises = none) (c : Cfg) :
    (activate nestedRtc m t tr c).2 =
      .ok (some (unwrap (((applicable t.event tr.before).map fun cb => rtcRet m (act cb)) ++
                         ((applicable t.event tr.on).map fun cb => rtcRet m (act cb))))) :=
  (activate_fire B tr hv hg hp ha c).1

/-- a rejected candidate contributes nothing -/
theorem C14_rejected_none {m : Machine} {t : Trigger} {act : CbId → Act} (B : Beh m t act) (tr : Transn)
    (hv : firstRaise act tr.validators = none)
    (hg : ∀ p ∈ tr.conds, (act p.1).raises = none)
    (hp : guardsPass m act tr.conds = false) (c : Cfg) :
    (activate nestedRtc m t tr c).2 = .ok none :=
  (activate_reject B tr hv hg hp c).1

/-- a drain over one queued trigger whose processing queues nothing returns that trigger's result: what the outermost
call returns for the event it enqueued (fuel `n + 1` would do) -/
theorem drainLoop_single (m : Machine) (n : Nat) (t : Trigger) (c c' : Cfg) (r : Res)
    (hq : c.queue = [t])
    (ht : trigger nestedRtc m t { c with queue := [] } = (c', .ok (some r)))
    (hq' : c'.queue = []) :
    drainLoop m (n + 2) none c = (c', .ok r) := by
  rw [drainLoop_cons m _ _ hq, ht]
  exact drainLoop_nil m _ _ hq'

/-- an event that fires no transition (tolerated) returns `None` -/
theorem drainLoop_single_none (m : Machine) (n : Nat) (t : Trigger) (c c' : Cfg)
    (hq : c.queue = [t])
    (ht : trigger nestedRtc m t { c with queue := [] } = (c', .ok (some .none)))
    (hq' : c'.queue = []) :
    drainLoop m (n + 2) none c = (c', .ok .none) :=
  drainLoop_single m n t c c' .none hq ht hq'

/-- `first_result`: while nothing is recorded the next outcome is taken as it is (the sentinel of `__initial__` records
nothing: `C14_initial_not_a_result`), and what is recorded stays -/
theorem orFirst_sentinel (r : Option Res) : orFirst none r = r := rfl
theorem orFirst_keeps (f : Res) (r : Option Res) : orFirst (some f) r = some f := rfl

/-- **C14 (any processing mode).** `C14_result` for every nested-send handler (`rtc=False` included) when callbacks
send no events. -/
theorem C14_result_any {m : Machine} {t : Trigger} {act : CbId → Act} (B : Beh m t act) (hs : NoSends m) (h : Nested)
    (tr : Transn) (hv : firstRaise act tr.validators = none)
    (hg : ∀ p ∈ tr.conds, (act p.1).raises = none)
    (hp : guardsPass m act tr.conds = true)
    (ha : ∀ cb ∈ actionCbs m t.event tr, (act cb).raises = none) (c : Cfg) :
    (activate h m t tr c).2 =
      .ok (some (unwrap (((applicable t.event tr.before).map fun cb => rtcRet m (act cb)) ++
                         ((applicable t.event tr.on).map fun cb => rtcRet m (act cb))))) := by
  rw [activate_any (hs.at t) h]; exact C14_result B tr hv hg hp ha c

/-- once a result is recorded (also `None`), no event processed later in the same drain — nested sends, chained
events — replaces it -/
theorem drainLoop_keeps_first (m : Machine) (n : Nat) (f : Res) (c : Cfg) (r : Res)
    (h : (drainLoop m n (some f) c).2 = .ok r) : r = f := by
  induction n generalizing c with
  | zero =>
    unfold drainLoop at h
    split at h
    · exact (Except.ok.inj h).symm
    · cases h
  | succ k ih =>
    cases hq : c.queue with
    | nil => rw [drainLoop_nil m _ _ hq] at h; exact (Except.ok.inj h).symm
    | cons t q =>
      rw [drainLoop_cons m _ _ hq] at h
      split at h
      · exact ih _ h
      · cases h

/-- **C14 / C03 (the outermost call returns the first event's result).** If the event at the head of the queue
executes with result `r₀` — `None` included — then, however many events its callbacks queued and whatever those
return, a drain that completes returns `r₀`. -/
theorem C14_first_result (m : Machine) (n : Nat) (c : Cfg) (t : Trigger) (q : List Trigger) (c' : Cfg) (r₀ r : Res)
    (hq : c.queue = t :: q)
    (ht : trigger nestedRtc m t { c with queue := q } = (c', .ok (some r₀)))
    (h : (drainLoop m (n + 1) none c).2 = .ok r) : r = r₀ := by
  rw [drainLoop_cons m _ _ hq, ht] at h
  exact drainLoop_keeps_first m n r₀ c' r h

/-- the activation pseudo-event (`trigger` returns the sentinel `none`) does not count: the next event's result does -/
theorem C14_initial_not_a_result (m : Machine) (n : Nat) (c : Cfg) (t : Trigger) (q : List Trigger) (c' : Cfg)
    (hq : c.queue = t :: q)
    (ht : trigger nestedRtc m t { c with queue := q } = (c', .ok none)) :
    drainLoop m (n + 1) none c = drainLoop m n none c' := by
  rw [drainLoop_cons m _ _ hq, ht]
  rfl

end SMV
