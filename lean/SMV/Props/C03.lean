import SMV.Lemmas.Ext
import SMV.Lemmas.ListAux
/-!
# C03 — Run-to-completion: nested events are queued, FIFO, never interleaved

Trigger ids are allocated at *send* time from a counter. "Events run one at a time in the order
they were sent, and an event sent from inside a callback does not start before the transition in
progress has finished" is therefore: **the trigger ids along the callback log never decrease** —
every event's entries form one contiguous block and the blocks are in send order.
-/
namespace SMV

/-- invariant of run-to-completion processing; every id in use is below the counter, so that what is queued next is
the youngest -/
def Inv (c : Cfg) : Prop :=
  (c.log.map Entry.tid).Pairwise (· ≤ ·) ∧
  (c.queue.map Trigger.tid).Pairwise (· < ·) ∧
  (∀ e ∈ c.log, ∀ q ∈ c.queue, e.tid < q.tid) ∧
  (∀ q ∈ c.queue, q.tid < c.nextTid) ∧
  (∀ e ∈ c.log, e.tid < c.nextTid)

theorem inv_of_ext {h : Trigger} {q : List Trigger} {c c' : Cfg}
    (hq : c.queue = h :: q) (hinv : Inv c) (hext : Ext h.tid { c with queue := q } c') : Inv c' := by
  obtain ⟨hlog, hqueue, hlq, hqn, _⟩ := hinv
  obtain ⟨⟨es, hl, hes⟩, ⟨qs, hq', hqs⟩, hmono, _⟩ := hext
  dsimp only at hl hq' hqs hmono  -- the fields of `{ c with queue := q }`
  rw [hq] at hqueue hlq hqn
  obtain ⟨hhq, hqq⟩ := List.pairwise_cons.1 (List.pairwise_map.1 hqueue)
  have hhn : h.tid < c'.nextTid := Nat.lt_of_lt_of_le (hqn h (.head _)) hmono
  -- the new queue entries carry the fresh ids `c.nextTid ≤ · < c'.nextTid`
  have hfresh : ∀ x ∈ qs, c.nextTid ≤ x.tid ∧ x.tid < c'.nextTid := fun x hx =>
    have hm : x.tid ∈ List.range' c.nextTid (c'.nextTid - c.nextTid) := hqs ▸ List.mem_map_of_mem hx
    Nat.add_sub_cancel' hmono ▸ List.mem_range'_1.mp hm
  -- the id of the trigger just processed separates the new log from the new queue
  have hle : ∀ e ∈ c'.log, e.tid ≤ h.tid := hl ▸ List.forall_mem_append.2
    ⟨fun e he => Nat.le_of_lt (hlq e he h (.head _)), fun e he => Nat.le_of_eq (hes e he)⟩
  have hlt : ∀ x ∈ c'.queue, h.tid < x.tid := hq' ▸ List.forall_mem_append.2
    ⟨hhq, fun x hx => Nat.lt_of_lt_of_le (hqn h (.head _)) (hfresh x hx).1⟩
  refine ⟨?_, ?_, fun e he x hx => Nat.lt_of_le_of_lt (hle e he) (hlt x hx), ?_,
    fun e he => Nat.lt_of_le_of_lt (hle e he) hhn⟩
  · rw [hl, List.pairwise_map, List.pairwise_append]
    exact ⟨List.pairwise_map.1 hlog, List.pairwise_map.1 (List.pairwise_le_of_const hes),
      fun a ha b hb => hes b hb ▸ Nat.le_of_lt (hlq a ha h (.head _))⟩
  · rw [hq', List.pairwise_map, List.pairwise_append]
    exact ⟨hqq, List.pairwise_map.1 (hqs ▸ List.pairwise_lt_range'),
      fun a ha b hb => Nat.lt_of_lt_of_le (hqn a (.tail _ ha)) (hfresh b hb).1⟩
  · exact hq' ▸ List.forall_mem_append.2
      ⟨fun x hx => Nat.lt_of_lt_of_le (hqn x (.tail _ hx)) hmono, fun x hx => (hfresh x hx).2⟩

theorem inv_clear_queue {c : Cfg} (h : Inv c) : Inv { c with queue := [] } := by
  obtain ⟨a, _, _, _, e⟩ := h
  exact ⟨a, by simp, by simp, by simp, e⟩

theorem drainStep_inv (m : Machine) (c : Cfg) (h : Inv c) : Inv (drainStep m c) := by
  cases hq : c.queue with
  | nil => simpa [drainStep, hq] using h
  | cons t q =>
    have := inv_of_ext hq h (trigger_ext m t { c with queue := q })
    rw [drainStep_cons m hq]
    split
    · exact this
    · exact inv_clear_queue this

/-- **C03 (FIFO, no interleaving), loop form.** From any configuration satisfying the invariant,
after any number of iterations of the drain loop the trigger ids along the log never decrease:
for every placement and fan-out of nested sends and every chain length. -/
theorem C03_fifo_no_interleave (m : Machine) (c : Cfg) (h : Inv c) (n : Nat) :
    ((iter (drainStep m) n c).log.map Entry.tid).Pairwise (· ≤ ·) :=
  (iter_pres (drainStep_inv m) n c h).1

/-- the drain loop of `processing_loop` is an iteration of `drainStep` -/
theorem drainLoop_iter (m : Machine) (fuel : Nat) (first : Option Res) (c : Cfg) :
    ∃ k, (drainLoop m fuel first c).1 = iter (drainStep m) k c := by
  induction fuel generalizing first c with
  | zero => exact ⟨0, by unfold drainLoop; split <;> rfl⟩
  | succ n ih =>
    cases hq : c.queue with
    | nil => exact ⟨0, by rw [drainLoop_nil m _ _ hq]; rfl⟩
    | cons t q =>
      rw [drainLoop_cons m _ _ hq]
      cases hr : (trigger nestedRtc m t { c with queue := q }).2 with
      | ok r =>
        obtain ⟨k, hk⟩ := ih (orFirst first r) (trigger nestedRtc m t { c with queue := q }).1
        exact ⟨k + 1, by rw [hk, iter, drainStep_cons m hq, hr]⟩
      | error e => exact ⟨1, by rw [iter, drainStep_cons m hq, hr]; rfl⟩

theorem drainLoop_inv (m : Machine) (fuel : Nat) (first : Option Res) (c : Cfg) (h : Inv c) :
    Inv (drainLoop m fuel first c).1 := by
  obtain ⟨k, hk⟩ := drainLoop_iter m fuel first c
  rw [hk]; exact iter_pres (drainStep_inv m) k c h

theorem processRtc_inv (m : Machine) (fuel : Nat) : Pres Inv (processRtc m fuel) := by
  intro c h
  unfold processRtc
  split
  · exact h
  · exact drainLoop_inv m fuel none { c with locked := true } h  -- `Inv` does not mention the lock

theorem inv_push {c : Cfg} (t : Trigger) (ht : t.tid = c.nextTid) (h : Inv c) :
    Inv { c with queue := c.queue ++ [t], nextTid := c.nextTid + 1 } := by
  obtain ⟨a, b, d, f, g⟩ := h
  refine ⟨a, ?_, fun x hx => ?_, ?_, fun x hx => Nat.lt_succ_of_lt (g x hx)⟩
  · show ((c.queue ++ [t]).map Trigger.tid).Pairwise (· < ·)
    rw [List.pairwise_map, List.pairwise_append]
    exact ⟨List.pairwise_map.1 b, List.pairwise_singleton _ _, fun q hq x hx => by
      rw [List.mem_singleton.1 hx, ht]; exact f q hq⟩
  · exact List.forall_mem_append.2 ⟨d x hx, List.forall_mem_singleton.2 (ht ▸ g x hx)⟩
  · exact List.forall_mem_append.2
      ⟨fun q hq => Nat.lt_succ_of_lt (f q hq), List.forall_mem_singleton.2 (ht ▸ Nat.lt_succ_self _)⟩

theorem enqueue_inv (e : EventId) : Pres Inv (enqueue e) := fun _ => inv_push _ rfl

theorem enqueueActivation_inv : Pres Inv enqueueActivation := fun _ => inv_push _ rfl

theorem start_inv : Pres Inv start :=
  Pres.bind Pres.get fun _ => Resp.ite enqueueActivation_inv (Pres.pure _)

theorem process_inv (m : Machine) (kind : Kind) (fuel : Nat) :
    Pres Inv (process m { rtc := true, kind := kind } fuel) :=
  processRtc_inv m fuel  -- `process` with `rtc := true` reduces to `processRtc`

theorem construct_inv (m : Machine) (kind : Kind) (fuel : Nat) :
    Pres Inv (construct m { rtc := true, kind := kind } fuel) := by
  unfold construct
  exact Resp.ite (Pres.throw _) (Pres.bind start_inv fun _ =>
    Resp.ite (Pres.bind (process_inv m kind fuel) fun _ => Pres.pure _) (Pres.pure _))

/-- every operation of a run-to-completion machine (sync or async engine) keeps the invariant -/
theorem stepOp_inv (m : Machine) (kind : Kind) (fuel : Nat) (op : Op) :
    Pres Inv (stepOp m { rtc := true, kind := kind } fuel op) := by
  cases op with
  | construct => exact Pres.bind (construct_inv m kind fuel) fun _ => Pres.pure _
  | send e => exact Pres.bind (enqueue_inv e) fun _ => process_inv m kind fuel
  | activate => exact process_inv m kind fuel

theorem inv_fresh (cur : Option Val) : Inv { cur := cur } := by
  simp [Inv]

theorem stepH_inv (m : Machine) (kind : Kind) (fuel : Nat) (h : HOp) (c : Cfg) (hc : Inv c) :
    Inv (stepH m { rtc := true, kind := kind } fuel h c) := by
  cases h with
  | op x => exact stepOp_inv m kind fuel x c hc
  | write v => exact hc  -- `Inv` does not mention the model field
  | reconstruct => exact construct_inv m kind fuel _ (inv_clear_queue hc)

theorem runHist_inv (kind : Kind) (fuel : Nat) (hist : List (Machine × HOp)) (c : Cfg) (h : Inv c) :
    Inv (runHist { rtc := true, kind := kind } fuel hist c) := by
  induction hist generalizing c with
  | nil => exact h
  | cons x rest ih =>
    obtain ⟨m, o⟩ := x
    exact ih _ (stepH_inv m kind fuel o c h)

/-- **C03, general histories.** `C03_history` over any history in which, between the machine's own operations, the
machine itself changes (listeners attached late, options assigned after construction), somebody else writes the model
field, and the machine object is re-created over the same model (restart, `deepcopy`, pickle). -/
theorem C03_history_general (kind : Kind) (fuel : Nat) (cur : Option Val) (hist : List (Machine × HOp)) :
    ((runHist { rtc := true, kind := kind } fuel hist { cur := cur }).log.map Entry.tid).Pairwise (· ≤ ·) :=
  (runHist_inv kind fuel hist _ (inv_fresh cur)).1

theorem runOps_eq_runHist (m : Machine) (o : Opts) (fuel : Nat) (ops : List Op) (c : Cfg) :
    runOps m o fuel ops c = runHist o fuel (ops.map fun op => (m, .op op)) c := by
  induction ops generalizing c with
  | nil => rfl
  | cons op ops ih => exact ih _

/-- **C03 (FIFO, no interleaving), history form.** For every machine, every callback behaviour
(any placement, fan-out and depth of nested sends, failing callbacks included), either engine, and
every history of constructions, sends and activations issued from outside callbacks, the trigger
ids along the callback log never decrease. -/
theorem C03_history (m : Machine) (kind : Kind) (fuel : Nat) (cur : Option Val) (ops : List Op) :
    ((runOps m { rtc := true, kind := kind } fuel ops { cur := cur }).log.map Entry.tid).Pairwise (· ≤ ·) := by
  rw [runOps_eq_runHist]
  exact C03_history_general kind fuel cur _

/-- In run-to-completion mode a nested `send` returns `None` to the callback. -/
theorem C03_nested_returns_none (e : EventId) (c : Cfg) : (nestedRtc e c).2 = .ok .none := rfl

/-- In run-to-completion mode a nested `send` does nothing but append the event to the queue under a fresh id. -/
theorem C03_nested_only_enqueues (e : EventId) (c : Cfg) :
    (nestedRtc e c).1 = { c with queue := c.queue ++ [{ tid := c.nextTid, event := e }],
                                  nextTid := c.nextTid + 1 } := rfl

end SMV
