import SMV.Lemmas.BinderCorner
/-!
# C07 — Callbacks receive exactly the parameters they declare

> Every callback is called with exactly the parameters it declares: named parameters receive the
> same-named event keyword argument or built-in value (`event_data`, `event`, `source`, `target`,
> `state`, `model`, `machine`, `transition`), remaining positional parameters receive the event's
> positional arguments in order, `*args`/`**kwargs` receive the leftovers, and undeclared data never
> causes a `TypeError`. The built-in names always describe the event being processed and cannot be
> overridden or leaked through user keyword arguments, and the binding depends only on the
> callback's own signature.

The model is `SMV/Model/Binder.lean`: `invoke` (the call through the adapter, `none` = `TypeError`; `fixed = true`: the
tree with commit 7cfa348, D5), `specCall`/`specParam` (the Spec), `eventKwargs` (what a callback is offered: the
`Event.__call__` filter, then the `extended_kwargs` layering), `invokeCached` (the call through the process-wide adapter
cache after adapters for `hist` were created; `fixed` selects the cache key only — `true`: commit 2556fed, D6 — and the
binder behind it is the repaired one). The rest of the vocabulary stands with the lemmas about it: `WF`, `Unsupplied`
(with `named`), `PosOnlyByKeyword`, `isPos` in `SMV/Lemmas/BinderBase.lean`, `valEquiv` in
`SMV/Lemmas/BinderCorner.lean`. All theorems hold for every well-formed signature, every list of positional arguments
and every keyword list.

**The corner.** `corner sig args kw`: some positional-only parameter is *not* reached by a positional argument while a
keyword bears its name. There the library passes the keyword on and the outcome is CPython's: `TypeError`
(`tests/test_signature.py` pins it), or the keyword lands in `**kwargs`.
-/
namespace SMV.Bind

/-- **C07 (receive, exact form).** Outside the corner, calling a callback through the library's adapter
*is* the Spec: the call raises `TypeError` iff a parameter without default has no argument, and
otherwise every parameter holds exactly `specParam …` (frames are equal as lists: same parameters,
same values, `**kwargs` even in the caller's order). -/
theorem C07_receive_exact (sig : List Param) (args : List Val) (kw : KW) (hwf : WF sig)
    (hc : corner sig args kw = false) :
    invoke true sig args kw = specCall sig args kw :=
  invoke_eq_spec sig args kw hwf hc

/-- **C07 (receive, parameter by parameter).** Outside the corner, the `i`-th parameter of a call that goes through
holds exactly `specParam …`. -/
theorem C07_receive_param (sig : List Param) (args : List Val) (kw : KW) (hwf : WF sig)
    (hc : corner sig args kw = false) (fr : Frame) (h : invoke true sig args kw = some fr)
    (i : Nat) (p : Param) (hi : sig[i]? = some p) :
    ∃ v, specParam sig args kw i p = some v ∧ lookup fr p.name = some v := by
  rw [C07_receive_exact sig args kw hwf hc] at h
  exact collect_lookup (by rw [specFrame, specFrom_keys]; exact hwf.names) h (mem_specFrame.mpr ⟨i, p, hi, rfl⟩)

/-- **C07 (receive).** For *every* call that goes through, the corner included, the `i`-th parameter `p` of the
callback holds what the Spec says (`specParam`) up to `valEquiv`: equal, two `**kwargs` dicts compared by lookup. -/
theorem C07_receive (sig : List Param) (args : List Val) (kw : KW) (hwf : WF sig) (fr : Frame)
    (h : invoke true sig args kw = some fr) (i : Nat) (p : Param) (hi : sig[i]? = some p) :
    ∃ v w, specParam sig args kw i p = some v ∧ lookup fr p.name = some w ∧ valEquiv w v := by
  cases hc : corner sig args kw with
  | false =>
    obtain ⟨v, h1, h2⟩ := C07_receive_param sig args kw hwf hc fr h i p hi
    exact ⟨v, v, h1, h2, valEquiv_refl v⟩
  | true => exact receive_corner hwf hc fr h i p hi

theorem specParam_eq_none_iff (sig : List Param) (args : List Val) (kw : KW) (i : Nat) (p : Param) :
    specParam sig args kw i p = none ↔ p.dflt = false ∧ named p = true ∧
      (p.kind = .po ∨ kwGet kw p.name = none) ∧ (p.kind = .ko ∨ args.length ≤ i) := by
  have hd : dfltOr p = none ↔ p.dflt = false := by unfold dfltOr; cases p.dflt <;> simp
  rw [← List.getElem?_eq_none_iff, ← hd, named_iff]
  unfold specParam
  cases p.kind
  case po => cases args[i]? <;> simp
  case pk => cases kwGet kw p.name <;> cases args[i]? <;> simp
  case ko => cases kwGet kw p.name <;> simp
  all_goals simp

theorem specCall_eq_none_iff (sig : List Param) (args : List Val) (kw : KW) :
    specCall sig args kw = none ↔ Unsupplied sig args kw := by
  simp only [specCall, collect_eq_none_iff, mem_specFrame, Unsupplied, ← specParam_eq_none_iff sig args kw]
  constructor
  · rintro ⟨_, i, p, hi, h⟩
    exact ⟨i, p, hi, (Prod.mk.inj h).2.symm⟩
  · rintro ⟨i, p, hi, h⟩
    exact ⟨p.name, i, p, hi, by rw [h]⟩

/-- **C07 (no spurious `TypeError`).** For every call: a `TypeError` means that some parameter without
a default is not supplied, or that a keyword names a positional-only parameter no positional argument
reaches (CPython's own `TypeError`, pinned by the suite). Surplus positional arguments and unknown
keywords never raise. -/
theorem C07_no_spurious_typeerror (sig : List Param) (args : List Val) (kw : KW) (hwf : WF sig)
    (h : invoke true sig args kw = none) : Unsupplied sig args kw ∨ PosOnlyByKeyword sig args kw := by
  cases hc : corner sig args kw with
  | false =>
    rw [C07_receive_exact sig args kw hwf hc] at h
    exact Or.inl ((specCall_eq_none_iff sig args kw).mp h)
  | true => exact Or.inr ((corner_iff sig args kw).mp hc)

/-- **C07 (missing is `TypeError`).** The converse of `C07_no_spurious_typeerror` outside the corner: an unsupplied
required parameter *is* a `TypeError`. -/
theorem C07_missing_is_typeerror (sig : List Param) (args : List Val) (kw : KW) (hwf : WF sig)
    (hc : corner sig args kw = false) (h : Unsupplied sig args kw) : invoke true sig args kw = none := by
  rw [C07_receive_exact sig args kw hwf hc]
  exact (specCall_eq_none_iff sig args kw).mpr h

/-- **C07 (the pinned corner).** No positional argument left, the next parameter is positional-only
and a keyword bears its name: `TypeError` ("… is positional only, but was passed as a keyword"). -/
theorem C07_corner_first (pre : List Param) (p : Param) (rest : List Param) (args : List Val) (kw : KW)
    (hwf : WF (pre ++ p :: rest)) (hpre : ∀ q ∈ pre, isPos q = true) (hlen : pre.length = args.length)
    (hk : p.kind = .po) (hn : (kwGet kw p.name).isSome = true) :
    invoke true (pre ++ p :: rest) args kw = none := by
  -- `hpre` follows from `hwf`: only positional-only parameters precede a positional-only one
  have _ := hpre
  unfold invoke invokeWith
  rw [(bind_none_iff hwf).mpr ⟨p, by simp [← hlen], hk, hn⟩]

/-- `def f(a, /, b, c=…, *args, k, **kw)` called with four positionals and keywords `b`, `k`, `u`:
a well-formed, non-corner call that exercises every kind -/
example :
    let sig : List Param := [⟨10, .po, false⟩, ⟨11, .pk, false⟩, ⟨12, .pk, true⟩, ⟨13, .vp, false⟩,
      ⟨14, .ko, false⟩, ⟨15, .vk, false⟩]
    WF sig ∧ corner sig [100, 101, 102, 103] [(11, 211), (14, 214), (40, 240)] = false ∧
    invoke true sig [100, 101, 102, 103] [(11, 211), (14, 214), (40, 240)] =
      some [(10, .one 100), (11, .one 211), (12, .one 102), (13, .tuple [103]), (14, .one 214),
            (15, .dict [(40, 240)])] := by
  exact ⟨(wf_iff_wfB _).mpr (by decide +kernel), by decide +kernel⟩

/-- a legitimate `TypeError`: `def f(a, *, k)` called with `(1, 2)` and no `k` -/
example :
    let sig : List Param := [⟨10, .pk, false⟩, ⟨14, .ko, false⟩]
    WF sig ∧ corner sig [100, 101] [(40, 240)] = false ∧ invoke true sig [100, 101] [(40, 240)] = none := by
  exact ⟨(wf_iff_wfB _).mpr rfl, rfl, rfl⟩

/-- the corner where the call goes through: `def f(a=…, b=…, /, **kw)` called as `f(u=1, b=2)`; `b` keeps its
default, the keyword `b` lands in `**kw` — in a different position than in the caller's keywords, which
is why `C07_receive` compares `**kwargs` as a dict -/
example :
    let sig : List Param := [⟨10, .po, true⟩, ⟨11, .po, true⟩, ⟨15, .vk, false⟩]
    WF sig ∧ corner sig [] [(40, 240), (11, 211)] = true ∧
    invoke true sig [] [(40, 240), (11, 211)] = some [(10, .dflt), (11, .dflt), (15, .dict [(11, 211), (40, 240)])] ∧
    specCall sig [] [(40, 240), (11, 211)] = some [(10, .dflt), (11, .dflt), (15, .dict [(40, 240), (11, 211)])] := by
  exact ⟨(wf_iff_wfB _).mpr rfl, rfl, rfl, rfl⟩

/-- the pinned corner: `def f(a, /)` called as `f(a=1)` -/
example : invoke true ([] ++ [⟨10, .po, false⟩]) [] [(10, 210)] = none :=
  C07_corner_first [] ⟨10, .po, false⟩ [] [] [(10, 210)] ((wf_iff_wfB _).mpr rfl) (by simp) rfl rfl rfl

/-- **D5.** Before commit 7cfa348, `def f(a, *, k=…)` called with surplus positionals `(1, 2, 3)` and
`k=9` lost the caller's `k` (the parameter was consumed from the iterator and never looked at again). -/
theorem C07_as_is_loses_keyword_only :
    let sig : List Param := [⟨10, .pk, false⟩, ⟨14, .ko, true⟩]
    WF sig ∧ corner sig [100, 101, 102] [(14, 214)] = false ∧
    invoke false sig [100, 101, 102] [(14, 214)] = some [(10, .one 100), (14, .dflt)] ∧
    specCall sig [100, 101, 102] [(14, 214)] = some [(10, .one 100), (14, .one 214)] ∧
    invoke true sig [100, 101, 102] [(14, 214)] = some [(10, .one 100), (14, .one 214)] := by
  exact ⟨(wf_iff_wfB _).mpr rfl, rfl, rfl, rfl, rfl⟩

/-- **D5**, with a required `k` (`def f(a, *, k)` called with `(1, 2)` and `k=9`): the call raised a spurious
`TypeError`. -/
theorem C07_as_is_spurious_typeerror :
    let sig : List Param := [⟨10, .pk, false⟩, ⟨14, .ko, false⟩]
    invoke false sig [100, 101] [(14, 214)] = none ∧
    invoke true sig [100, 101] [(14, 214)] = some [(10, .one 100), (14, .one 214)] := by
  exact ⟨rfl, rfl⟩

/-- **C07 (layering alone).** Even for a `TriggerData` whose keywords were *not* filtered (built by hand),
`extended_kwargs` assigns the built-ins last: the reserved names cannot be overridden. -/
theorem C07_layering (tk : KW) (b : Name → Val) :
    (∀ r ∈ reserved, kwGet (extendedKwargs tk b) r = some (b r)) ∧
    (∀ n, n ∉ reserved → kwGet (extendedKwargs tk b) n = kwGet tk n) := by
  constructor
  · intro r hr; simp only [extendedKwargs, kwGet_layer, hr, if_true]
  · intro n hn; simp only [extendedKwargs, kwGet_layer, hn, if_false]

theorem kwGet_filterReserved (kw : KW) (n : Name) :
    kwGet (filterReserved kw) n = if n ∈ reserved then none else kwGet kw n := by
  rw [filterReserved, kwGet_filter kw (fun n => !reserved.contains n)]
  by_cases h : n ∈ reserved <;> simp [h]

/-- **C07 (built-ins).** Whatever keywords the user passes to `send`, keywords named like the built-ins included,
1. the eight reserved names offered to a callback hold the values of the event *being processed*;
2. `trigger_data.kwargs` (what `Event.__call__` stores) contains no reserved name;
3. every other keyword is offered unchanged. -/
theorem C07_builtins (kw : KW) (b : Name → Val) :
    (∀ r ∈ reserved, kwGet (eventKwargs kw b) r = some (b r)) ∧
    (∀ r ∈ reserved, kwGet (filterReserved kw) r = none) ∧
    (∀ n, n ∉ reserved → kwGet (eventKwargs kw b) n = kwGet kw n) :=
  ⟨(C07_layering _ b).1, fun r hr => by rw [kwGet_filterReserved, if_pos hr],
    fun n hn => by rw [eventKwargs, (C07_layering _ b).2 n hn, kwGet_filterReserved, if_neg hn]⟩

/-- **C07 (built-ins, forwarded).** Part 1 of `C07_builtins` at the keywords of `sm.send("child", **kwargs, **extra)`
inside a callback that was offered `eventKwargs kw₁ b₁` (a whole `**kwargs` dict, with the parent's `event_data`,
`source`, …): the child's callbacks see the child's values. -/
theorem C07_builtins_forwarded (kw₁ extra : KW) (b₁ b₂ : Name → Val) :
    ∀ r ∈ reserved, kwGet (eventKwargs (eventKwargs kw₁ b₁ ++ extra) b₂) r = some (b₂ r) :=
  (C07_builtins _ b₂).1

/-- **C07 (built-ins, as received).** End to end, from `sm.send(event, *args, **kw)` to the callback's
frame, for every call that goes through: a positional-or-keyword or keyword-only parameter named like a
built-in receives the current event's value (never a positional argument, never the user's same-named
keyword), and a `**kwargs` parameter holds the current event's value for every reserved name that no
parameter consumed. -/
theorem C07_builtins_received (sig : List Param) (args : List Val) (kw : KW) (b : Name → Val)
    (hwf : WF sig) (fr : Frame) (h : invokeEvent true sig args kw b = some fr) (i : Nat) (p : Param)
    (hi : sig[i]? = some p) :
    ((p.kind = .pk ∨ p.kind = .ko) → p.name ∈ reserved → lookup fr p.name = some (.one (b p.name))) ∧
    (p.kind = .vk → ∃ d, lookup fr p.name = some (.dict d) ∧
      ∀ r ∈ reserved, kwGet d r = if consumed sig r then none else some (b r)) := by
  obtain ⟨v, w, hv, hw, he⟩ := C07_receive sig args (eventKwargs kw b) hwf fr h i p hi
  have hb := (C07_builtins kw b).1
  constructor
  · intro hk hr
    obtain rfl : .one (b p.name) = v := by
      rcases hk with hk | hk <;> simpa [specParam, hk, hb p.name hr] using hv
    rw [hw, valEquiv_one he]
  · intro hk
    simp only [specParam, hk, Option.some.injEq] at hv
    subst hv
    obtain ⟨d, rfl, hd⟩ := valEquiv_dict he
    refine ⟨d, hw, fun r hr => ?_⟩
    rw [hd r, kwGet_filter (eventKwargs kw b) (fun n => !consumed sig n), hb r hr]
    cases consumed sig r <;> rfl

/-- non-vacuity: the user passes `source=99` and `x=5`; `def cb(source, **kw)` sees the event's source,
`x`, and the other seven built-ins -/
example :
    let b : Name → Val := fun r => 300 + r
    invokeEvent true [⟨6, .pk, false⟩, ⟨15, .vk, false⟩] [] [(6, 99), (20, 5)] b =
      some [(6, .one 306), (15, .dict [(20, 5), (0, 300), (1, 301), (2, 302), (3, 303), (4, 304), (5, 305),
        (7, 307)])] := by decide +kernel

theorem cacheGet_warm (hist : List Callable) (cache : Cache) (k : Nat) (s : List Param)
    (h : cacheGet (warm true cache hist) k = some s) :
    cacheGet cache k = some s ∨ ∃ d ∈ hist, d.ident = k ∧ d.sig = s := by
  induction hist generalizing cache with
  | nil => exact Or.inl h
  | cons d ds ih =>
    rcases ih _ h with h' | ⟨e, he, h'⟩
    · simp only [fromCallable, cacheKey, if_true] at h'
      cases hg : cacheGet cache d.ident with
      | some s0 => rw [hg] at h'; exact Or.inl h'
      | none =>
        simp only [hg, cacheGet] at h'
        split at h'
        next hk => cases h'; exact Or.inr ⟨d, List.mem_cons_self, hk, rfl⟩
        · exact Or.inl h'
    · exact Or.inr ⟨e, List.mem_cons_of_mem _ he, h'⟩

/-- a callback is bound with its own signature as soon as the callables wrapped before it under the same
identity have that signature -/
theorem invokeCached_own (hist : List Callable) (c : Callable) (args : List Val) (kw : KW)
    (hid : ∀ d ∈ hist, d.ident = c.ident → d.sig = c.sig) :
    invokeCached true hist c args kw = invoke true c.sig args kw := by
  unfold invokeCached invoke fromCallable
  simp only [cacheKey, if_true]
  cases hg : cacheGet (warm true [] hist) c.ident with
  | none => rfl
  | some s =>
    rcases cacheGet_warm hist [] _ s hg with h | ⟨d, hd, hk, rfl⟩
    · cases h
    · rw [hid d hd hk]

/-- **C07 (local).** With the cache keyed by the callable object, whatever callables were wrapped
before (`hist`: same names, same class names, partials of one function, `def`/`async def` twins …),
a callback is bound with its *own* signature. `hid` is meant to say that callables with the same identity have the
same signature; as written, `d'` ranges over every value of type `Callable`, wrapped or not, and no `hist` meets that:
the statement with `d'` in `hist` only is `invokeCached_own`. -/
theorem C07_local (hist : List Callable) (c : Callable) (args : List Val) (kw : KW)
    (hid : ∀ d ∈ c :: hist, ∀ d' : Callable, d'.ident = d.ident → d'.sig = d.sig) :
    invokeCached true hist c args kw = invoke true c.sig args kw :=
  invokeCached_own hist c args kw fun d _ => hid c List.mem_cons_self d

/-- **D6.** Before commit 2556fed the key was built from names only: after wrapping `cb(x)` of one
class, `cb(*, x)` of another class with the same qualified name was bound with the first signature
and the call `send(e, 1)` raised `TypeError` instead of leaving `x` to its default. -/
theorem C07_as_is_cache_confusion :
    let c₁ : Callable := ⟨1, 7, [⟨20, .pk, false⟩]⟩
    let c₂ : Callable := ⟨2, 7, [⟨20, .ko, true⟩]⟩
    invokeCached false [c₁] c₂ [100] [] = none ∧
    invokeCached true [c₁] c₂ [100] [] = some [(20, .dflt)] ∧
    invoke true c₂.sig [100] [] = some [(20, .dflt)] := by
  exact ⟨rfl, rfl, rfl⟩

end SMV.Bind
