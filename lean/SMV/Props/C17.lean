import SMV.Props.C11
import SMV.Props.C16
import SMV.Lemmas.Attach
import SMV.Model.Expr
/-!
# C17 — deepcopy / pickle clones are equivalent and independent

`clone` = `__getstate__`/`__setstate__`: a re-construction over the copied model field with a fresh
engine. A not-yet-activated async machine clones into one that activates on its first event (D14
repaired, `C17_clone_unactivated`). Independence: original and clone are two instances of a `World`,
and `C16_frame` applies — in the model deep copies share nothing by construction; that `copy`/`pickle`
really copy the model and listeners is an assumption checked by the correspondence with identity tests.

The callback registry (`SMV.Prov`): `Model/Clone.lean` has the three bodies `__setstate__` has had —
`setstate false`, `setstate true` (one pass, D25 repaired), `setstateReplay` (D29 repaired; what
`/repo/statemachine/statemachine.py` has: `runSetStateReg_replay` in `Src/TieStore.lean`) — and each
theorem says which one it is about.
-/
namespace SMV

/-- **C17 (equivalence).** A clone of a machine at rest that holds a state is configuration-equal
to the original, in every mode the library admits (`hvalid`: not async with `rtc=False`). -/
theorem C17_clone_equiv (m : Machine) (o : Opts) (fuel : Nat) (c : Cfg) (v : Val)
    (hcur : c.cur = some v) (h : Quiet c) (hvalid : ¬(o.kind = .async ∧ o.rtc = false)) :
    clone m o fuel c = (c, .ok ()) := by
  unfold clone
  have hc : ({ c with queue := [], locked := false } : Cfg) = c := by
    obtain ⟨hq, hl⟩ := h
    cases c; cases hq; cases hl; rfl
  rw [hc]
  exact C11_resume m o fuel c v hcur h hvalid

/-- original and clone respond identically to every subsequent operation sequence -/
theorem C17_clone_then_ops (m : Machine) (o : Opts) (fuel : Nat) (c : Cfg) (v : Val)
    (hcur : c.cur = some v) (h : Quiet c) (hvalid : ¬(o.kind = .async ∧ o.rtc = false)) (ops : List Op) :
    runOps m o fuel ops (clone m o fuel c).1 = runOps m o fuel ops c := by
  rw [C17_clone_equiv m o fuel c v hcur h hvalid]

/-- a not yet activated async machine: the clone has exactly one `__initial__` trigger queued -/
theorem C17_clone_unactivated (m : Machine) (fuel : Nat) (c : Cfg) (hcur : c.cur = none) :
    (clone m { rtc := true, kind := .async } fuel c).1.queue = [{ tid := c.nextTid, event := initialEv, internal := true }] ∧
    (clone m { rtc := true, kind := .async } fuel c).1.cur = none := by
  unfold clone
  rw [C11_async_defers]
  rw [C11_start_fresh _ (by simpa using hcur)]
  exact ⟨rfl, hcur⟩

/-- **C17 (independence).** Original and clone are two instances; driving one never affects the other. -/
theorem C17_independent (ms : List Machine) (o : Opts) (fuel : Nat) (ops : List (Nat × Op)) (w : World)
    (i : Nat) (m : Machine) (c : Cfg) (hm : ms[i]? = some m) (hc : w[i]? = some c) :
    (runWorld ms o fuel ops w)[i]? = some (runOps m o fuel (own i ops) c) :=
  C16_frame ms o fuel ops w i m c hm hc

namespace Prov

/-- **C17 (registry, constructor listeners).** The one-pass `__setstate__` (D25 repaired) of a machine that was
constructed with listeners `ls` yields exactly the constructor's registry and engine kind (or
exactly its `InvalidDefinition`). -/
theorem C17_registry_ctor (isCoro : CbId → Bool) (mm ls : List Provider) (names required : List Name) :
    setstate true isCoro mm ls names required = registerAll isCoro (mm ++ ls) names required := rfl

/-- **C17 (registry, late listeners).** The original is constructed over `mm ++ ctor`
(`[machine, model, *ctor]`) and later extended by `add_listener(*late)`; its one-pass clone (`setstate true`)
is built over `mm ++ ctor ++ late`. If the providers are distinct objects (distinct ids), the clone holds
exactly the same resolved callbacks as the original.

Only the *set* is preserved: with a late listener the order inside an executor may differ (the
original has the late listener's callbacks after those of every name, the clone has them after the
constructor providers' callbacks of the *same* name — see the `example` below); callbacks inside
one group are unordered by the documented contract. The engine `kind` is deliberately not compared:
the original keeps the engine chosen at construction (finding D12) while the clone chooses from the
full registry (`C17_registry_fixed_kind`). -/
theorem C17_registry_late (isCoro : CbId → Bool) (mm ctor late : List Provider) (names required : List Name)
    (hnd : ((mm ++ ctor ++ late).map (·.id)).Nodup) (r₀ r' : Reg)
    (h₀ : registerAll isCoro (mm ++ ctor) names required = .ok r₀)
    (h' : setstate true isCoro mm (ctor ++ late) names required = .ok r') :
    ∀ it, it ∈ r'.items ↔ it ∈ (addListeners r₀ late names).items := by
  intro it
  obtain ⟨e₀, _, _⟩ := registerAll_ok _ _ _ _ _ h₀
  obtain ⟨e', _, _⟩ := registerAll_ok _ _ _ _ _ h'
  simp only [addListeners, e₀, e']
  exact late_items_iff mm ctor late names hnd it

/-- the one-pass clone never fails when the original existed (`checkNames` is monotone in the item set) -/
theorem C17_registry_late_exists (isCoro : CbId → Bool) (mm ctor late : List Provider)
    (names required : List Name) (hnd : ((mm ++ ctor ++ late).map (·.id)).Nodup) (r₀ : Reg)
    (h₀ : registerAll isCoro (mm ++ ctor) names required = .ok r₀) :
    ∃ r', setstate true isCoro mm (ctor ++ late) names required = .ok r' := by
  obtain ⟨_, hc, _⟩ := registerAll_ok _ _ _ _ _ h₀
  have hc' : checkNames (attach [] (mm ++ (ctor ++ late)) names) required = true :=
    checkNames_mono _ _ required
      (fun it hit => (late_items_iff mm ctor late names hnd it).mpr (mem_attach_mono _ late names it hit)) hc
  exact ⟨_, if_pos hc'⟩

/-- original and one-pass clone agree on whether a coroutine callback is registered -/
theorem C17_registry_late_async (isCoro : CbId → Bool) (mm ctor late : List Provider)
    (names required : List Name) (hnd : ((mm ++ ctor ++ late).map (·.id)).Nodup) (r₀ r' : Reg)
    (h₀ : registerAll isCoro (mm ++ ctor) names required = .ok r₀)
    (h' : setstate true isCoro mm (ctor ++ late) names required = .ok r') :
    hasAsync isCoro r'.items = hasAsync isCoro (addListeners r₀ late names).items := by
  rw [Bool.eq_iff_iff, hasAsync_iff, hasAsync_iff]
  exact exists_congr fun it =>
    and_congr_left' (C17_registry_late isCoro mm ctor late names required hnd r₀ r' h₀ h' it)

/-- **C17 (engine of the clone; D25b repaired).** The one-pass `__setstate__` chooses the async
engine iff some callback of the full registry — machine, model *and listeners* — is a coroutine. -/
theorem C17_registry_fixed_kind (isCoro : CbId → Bool) (mm ls : List Provider) (names required : List Name)
    (r : Reg) (h : setstate true isCoro mm ls names required = .ok r) :
    r.items = attach [] (mm ++ ls) names ∧
    (r.kind = .async ↔ ∃ it ∈ r.items, isCoro it.cb = true) := by
  obtain ⟨e, _, k⟩ := registerAll_ok _ _ _ _ _ h
  refine ⟨e, ?_⟩
  rw [k, e, ← hasAsync_iff]
  cases hasAsync isCoro (attach [] (mm ++ ls) names) <;> simp

/-- **D25a (as is).** Name 7 is required and offered only by the listener (provider 2): the
constructor accepts the machine, the unrepaired `__setstate__` raises `InvalidDefinition` (its check
runs on machine + model only); the one-pass one rebuilds the registry. -/
theorem C17_D25a_witness :
    registerAll (fun _ => false) ([⟨0, []⟩, ⟨1, []⟩] ++ [⟨2, [(7, 70)]⟩]) [7] [7] = .ok ⟨[⟨7, 2, 70⟩], .sync⟩ ∧
    setstate false (fun _ => false) [⟨0, []⟩, ⟨1, []⟩] [⟨2, [(7, 70)]⟩] [7] [7] = .error .invalidDef ∧
    setstate true (fun _ => false) [⟨0, []⟩, ⟨1, []⟩] [⟨2, [(7, 70)]⟩] [7] [7] = .ok ⟨[⟨7, 2, 70⟩], .sync⟩ := by
  decide +kernel

/-- **D25b (as is).** Only the listener's callback (72) is a coroutine function: the constructor
and the one-pass `__setstate__` choose the async engine, the unrepaired one the sync engine — with
the very same items. -/
theorem C17_D25b_witness :
    registerAll (· == 72) ([⟨0, [(7, 70)]⟩, ⟨1, []⟩] ++ [⟨2, [(7, 72)]⟩]) [7] [7]
      = .ok ⟨[⟨7, 0, 70⟩, ⟨7, 2, 72⟩], .async⟩ ∧
    setstate false (· == 72) [⟨0, [(7, 70)]⟩, ⟨1, []⟩] [⟨2, [(7, 72)]⟩] [7] [7]
      = .ok ⟨[⟨7, 0, 70⟩, ⟨7, 2, 72⟩], .sync⟩ ∧
    setstate true (· == 72) [⟨0, [(7, 70)]⟩, ⟨1, []⟩] [⟨2, [(7, 72)]⟩] [7] [7]
      = .ok ⟨[⟨7, 0, 70⟩, ⟨7, 2, 72⟩], .async⟩ := by
  decide +kernel

/-- non-vacuity of `C17_registry_late`: machine 0 offers name 5, model 1 and constructor listener 2
offer name 6, the late listener 3 offers name 5 too: original and clone hold the same four items, in a
different order. -/
example :
    let mm : List Provider := [⟨0, [(5, 50)]⟩, ⟨1, [(6, 61)]⟩]
    let ctor : List Provider := [⟨2, [(6, 62)]⟩]
    let late : List Provider := [⟨3, [(5, 53)]⟩]
    ((mm ++ ctor ++ late).map (·.id)).Nodup ∧
    registerAll (fun _ => false) (mm ++ ctor) [5, 6] [5] = .ok ⟨[⟨5, 0, 50⟩, ⟨6, 1, 61⟩, ⟨6, 2, 62⟩], .sync⟩ ∧
    (addListeners ⟨[⟨5, 0, 50⟩, ⟨6, 1, 61⟩, ⟨6, 2, 62⟩], .sync⟩ late [5, 6]).items
      = [⟨5, 0, 50⟩, ⟨6, 1, 61⟩, ⟨6, 2, 62⟩, ⟨5, 3, 53⟩] ∧
    setstate true (fun _ => false) mm (ctor ++ late) [5, 6] [5]
      = .ok ⟨[⟨5, 0, 50⟩, ⟨5, 3, 53⟩, ⟨6, 1, 61⟩, ⟨6, 2, 62⟩], .sync⟩ := by
  decide +kernel

/-- **C17 (registry of a copy, `__setstate__` as `/repo` has it).** `__setstate__` replays the remembered
attachment passes: the copy's registry — items *in executor order* — and engine kind are exactly those of the
original, for any constructor listeners and any sequence of `add_listener` calls; it fails iff the original's
construction failed. (The copy even shares the original's D12 behaviour: a late coroutine listener does not change
the engine.) The equation holds by unfolding: replaying is going through the calls `original` lists. -/
theorem C17_registry_replay (isCoro : CbId → Bool) (mm ctor : List Provider) (lates : List (List Provider))
    (names required : List Name) :
    setstateReplay isCoro mm (ctor :: lates) names required = original isCoro mm ctor lates names required := rfl

/-- the replayed copy of a machine constructed with `ctor` and extended once by `add_listener(*late)`: the items
of "constructed, then extended", in that order, and the engine kind chosen at construction -/
theorem C17_registry_replay_late (isCoro : CbId → Bool) (mm ctor late : List Provider) (names required : List Name)
    (r₀ : Reg) (h₀ : registerAll isCoro (mm ++ ctor) names required = .ok r₀) :
    setstateReplay isCoro mm [ctor, late] names required = .ok (addListeners r₀ late names) := by
  simp [setstateReplay, h₀]

end Prov

/-! ## D29: the one-pass registration builds other guard expressions than the original

At the level of names the one-pass `__setstate__` (`setstate true`) resolves the same callbacks as the original
(`C17_registry_late`). A guard *expression*, however, is built once per attachment pass over the providers of
that pass: `passGuards` lists the guards an entry yields. -/
namespace GExpr

/-- the guards one `cond`/`unless` entry yields over a sequence of attachment passes, each taken as a late pass: one
per pass whose providers offer every name of the expression,
`passes.flatMap (lateGuards · [(.parsed e, expected, true)])` of the model -/
def passGuards (passes : List (Nat → List Nat)) (e : E) (expected : Bool) : List Guard :=
  passes.filterMap fun prov => if (unknowns prov e).isEmpty then some ⟨subst prov e, expected⟩ else none

/-- **D29 (witness).** `cond="!locked"`; slot 0 = the machine's `locked` (True), slot 1 = the late listener's
(False). The original (constructor pass, then the late pass) holds `not m.locked` and `not l.locked`: not
enabled. The one-pass copy holds `not (m.locked and l.locked)`: enabled. -/
theorem C17_D29_witness :
    let e : E := .not (.name 0)
    let ρ : Env := fun s => .bool (s == 0)
    (allLib pySem ρ (passGuards [fun _ => [0], fun _ => [1]] e true)).val = some false ∧
    (allLib pySem ρ (passGuards [fun _ => [0, 1]] e true)).val = some true := by
  decide

theorem allLib_names_and (S : Sem) (ρ : Env) (s t : Nat) :
    (allLib S ρ [⟨.name s, true⟩, ⟨.name t, true⟩]).val = (allLib S ρ [⟨.and (.name s) (.name t), true⟩]).val := by
  cases ha : truthy (ρ s)
  · simp [allLib, evalLib, ha]
  · cases hb : truthy (ρ t) <;> simp [allLib, evalLib, ha, hb]

/-- for a plain name (`cond="ready"`) the two registrations agree on every valuation of two providers -/
theorem passGuards_plain_name_agree (a b : V) :
    let ρ : Env := fun s => if s == 0 then a else b
    (allLib pySem ρ (passGuards [fun _ => [0], fun _ => [1]] (.name 0) true)).val =
    (allLib pySem ρ (passGuards [fun _ => [0, 1]] (.name 0) true)).val := by
  intro ρ
  exact allLib_names_and pySem ρ 0 1

end GExpr

end SMV
