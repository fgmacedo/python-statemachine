import SMV.Lemmas.EngineEq
/-!
# C13 — send(), event methods and bound events are one and the same entry point

In the model every calling style elaborates to `send e`: there is nothing to prove about the styles themselves
(that the real ones agree is what the correspondence check, DESIGN.md §5, tests). What is proved here is what the one
entry point does with an event the current state has no transition for, and that `allowed_events` / `events` list
exactly the events that have one.
-/
namespace SMV

theorem mem_dedupe (l : List Nat) (x : Nat) : x ∈ dedupe l ↔ x ∈ l := by
  induction l with
  | nil => simp [dedupe]
  | cons a l ih =>
    simp only [dedupe, List.mem_cons, List.mem_filter, ih]
    by_cases h : x = a <;> simp [h]

theorem nodup_dedupe (l : List Nat) : (dedupe l).Nodup := by
  induction l with
  | nil => simp [dedupe]
  | cons a l ih =>
    simp only [dedupe, List.nodup_cons, List.mem_filter]
    exact ⟨by simp, ih.filter _⟩

/-- `dedupe` only removes: what it keeps is in the order of the list -/
theorem dedupe_sublist (l : List Nat) : (dedupe l).Sublist l := by
  induction l with
  | nil => exact List.Sublist.slnil
  | cons a l ih =>
    simp only [dedupe]
    exact List.Sublist.cons_cons a ((List.filter_sublist).trans ih)

theorem dedupe_head (a : Nat) (l : List Nat) : (dedupe (a :: l)).head? = some a := rfl

/-- **C13 (allowed_events).** No duplicates; an event is listed iff some transition leaving the
state is bound to it; the list is a sublist of the events along the state's transition list. -/
theorem C13_allowed_events (m : Machine) (s : StateId) :
    (allowedEvents m s).Nodup ∧
    (∀ e, e ∈ allowedEvents m s ↔ ∃ tr ∈ out m s, e ∈ tr.events) ∧
    (allowedEvents m s).Sublist ((out m s).flatMap (·.events)) := by
  refine ⟨nodup_dedupe _, fun e => ?_, dedupe_sublist _⟩
  simp only [allowedEvents, mem_dedupe, List.mem_flatMap]

/-- **C13 (events).** Every event bound to any transition of any state is listed, once. -/
theorem C13_events_all (m : Machine) :
    (allEvents m).Nodup ∧ ∀ e, e ∈ allEvents m ↔ ∃ sd ∈ m.states, ∃ tr ∈ sd.trans, e ∈ tr.events := by
  refine ⟨nodup_dedupe _, fun e => ?_⟩
  simp only [allEvents, mem_dedupe, List.mem_flatMap]

/-- **C13 (unknown or not-allowed event).** If no transition leaving the current state is bound to
the event (e.g. the name is not a declared event at all), processing it changes *nothing* in the
configuration and yields `TransitionNotAllowed(event, state)`, or `None` under `allow_event_without_transition`. This
includes the reserved name `__initial__` sent by anybody once the machine holds a state (D23 repaired; `hi`: the
trigger is not the engine's own activation trigger, which is a no-op then — `C11_stale_activation`). -/
theorem C13_unknown (h : Nested) (m : Machine) (t : Trigger) (c : Cfg) (hi : t.internal = false)
    (hne : (t.event == initialEv) = false ∨ c.cur.isNone = false) (s : StateId) (hs : c.cur.bind (lookupState m) = some s)
    (hno : t.event ∉ allowedEvents m s) :
    trigger h m t c = (c, if m.allow then .ok (some .none) else .error (.notAllowed t.event s)) := by
  have _ := hne -- unused (`hs` already says that the model holds a state); mentioned for the linter
  have hno' : ∀ tr ∈ out m s, tr.events.contains t.event = false := fun tr htr =>
    Bool.eq_false_iff.2 fun hc => hno (((C13_allowed_events m s).2.1 _).2 ⟨tr, htr, by simpa using hc⟩)
  rw [trigger_no_match h m (.inr hi) hs hno']
  rfl

example : dedupe [3, 1, 3, 2, 1] = [3, 1, 2] := by decide

end SMV
