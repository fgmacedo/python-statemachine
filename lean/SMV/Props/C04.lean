import SMV.Lemmas.NoSends
/-!
# C04 — A failing callback leaves a consistent, usable machine (run-to-completion mode)

No assumption on callbacks at all (`m.behav` arbitrary): whatever raises wherever, the state is the source's or the
target's according to the half of the activation that failed (`activatePre` / `activatePost`), the exception reaches
the caller of the drain loop, the queue is emptied, the lock released.
-/
namespace SMV

/-- **C04 (state after a failure).** An exception raised in validators, guards, `before`, `exit` or `on` leaves the
model field as it was (the source); one raised in `enter` or `after` leaves it at the target's value;
a completed activation leaves it at the target's value, a rejected one unchanged. -/
theorem C04_state (m : Machine) (t : Trigger) (tr : Transn) (c : Cfg) :
    match activatePre nestedRtc m t tr c with
    | (c1, .error e) => activate nestedRtc m t tr c = (c1, .error e) ∧ c1.cur = c.cur
    | (c1, .ok none) => activate nestedRtc m t tr c = (c1, .ok none) ∧ c1.cur = c.cur
    | (c1, .ok (some rs)) =>
      c1.cur = c.cur ∧
      match activatePost nestedRtc m t tr c1 with
      | (c2, .error e) => activate nestedRtc m t tr c = (c2, .error e) ∧ c2.cur = some (stateVal m tr.target)
      | (c2, .ok _) => activate nestedRtc m t tr c = (c2, .ok (some (unwrap rs))) ∧
                       c2.cur = some (stateVal m tr.target) := by
  -- `c.cur` rewritten to the field after `activatePre` (below: the target's value to the field after `activatePost`),
  -- every conjunct is `rfl` once the two results are split
  rw [activate, EM.bind_apply, ← (activatePre_same m t tr c).cur]
  rcases activatePre nestedRtc m t tr c with ⟨c1, e | _ | rs⟩
  · exact ⟨rfl, rfl⟩
  · exact ⟨rfl, rfl⟩
  · refine ⟨rfl, ?_⟩
    dsimp only  -- the `match` on the pair just split
    rw [EM.bind_apply, ← activatePost_cur m t tr c1]
    rcases activatePost nestedRtc m t tr c1 with ⟨c2, e | u⟩ <;> exact ⟨rfl, rfl⟩

/-- the state after an activation is the one before or the target's — never anything else -/
theorem C04_state_two_values (m : Machine) (t : Trigger) (tr : Transn) (c : Cfg) :
    (activate nestedRtc m t tr c).1.cur = c.cur ∨
    (activate nestedRtc m t tr c).1.cur = some (stateVal m tr.target) :=
  activate_cur_any m t tr c

/-- **C04 (queue dropped, exception propagated).** When processing a queued event raises, the
drain loop hands that exception to its caller and the queue is empty afterwards: events still
waiting are dropped and can never run later. (`.fuel` is the model's own "ran out of steps".) -/
theorem C04_drain_error (m : Machine) (fuel : Nat) (first : Option Res) (c : Cfg) (e : Exc)
    (h : (drainLoop m fuel first c).2 = .error e) (he : e ≠ .fuel) :
    (drainLoop m fuel first c).1.queue = [] := by
  induction fuel generalizing first c with
  | zero =>
    unfold drainLoop at h
    split at h
    · cases h
    · exact absurd (Except.error.inj h).symm he
  | succ n ih =>
    cases hq : c.queue with
    | nil => rw [drainLoop_nil m _ _ hq]; exact hq
    | cons t q =>
      rw [drainLoop_cons m _ _ hq] at h ⊢
      cases hr : (trigger nestedRtc m t { c with queue := q }).2 with
      | ok r => rw [hr] at h; exact ih _ _ h
      | error e' => rfl

/-- the lock is released on every exit path -/
theorem C04_not_wedged (m : Machine) (fuel : Nat) (c : Cfg) (h : c.locked = false) :
    (processRtc m fuel c).1.locked = false := by
  rw [processRtc_unlocked m fuel h]

/-- `processing_loop` re-raises what the drain loop raised and leaves queue empty, lock free -/
theorem C04_process_error (m : Machine) (fuel : Nat) (c : Cfg) (hl : c.locked = false) (e : Exc)
    (h : (processRtc m fuel c).2 = .error e) (he : e ≠ .fuel) :
    (processRtc m fuel c).1.queue = [] ∧ (processRtc m fuel c).1.locked = false ∧
    (drainLoop m fuel none { c with locked := true }).2 = .error e := by
  rw [processRtc_unlocked m fuel hl] at h ⊢
  exact ⟨C04_drain_error m fuel none _ e h he, rfl, h⟩

/-- **C04 (usable afterwards).** A `send` that fails leaves a machine on which the next `send` is processed
normally: unlocked, nothing queued. -/
theorem C04_send_error_usable (m : Machine) (kind : Kind) (fuel : Nat) (ev : EventId) (c : Cfg)
    (hl : c.locked = false) (e : Exc)
    (h : (send m { rtc := true, kind := kind } fuel ev c).2 = .error e) (he : e ≠ .fuel) :
    (send m { rtc := true, kind := kind } fuel ev c).1.queue = [] ∧
    (send m { rtc := true, kind := kind } fuel ev c).1.locked = false :=
  -- `send` is `enqueue`, which leaves the lock alone, then `processRtc`
  have := C04_process_error m fuel (enqueue ev c).1 hl e h he
  ⟨this.1, this.2.1⟩

/-! `rtc=False`, without nested sends: source or target, by phase, as above. (A nested event run from inside a callback
under `rtc=False` changes the state on its own account; what the *outer* transition contributes is still that.) -/

theorem C04_state_two_values_any {m : Machine} (hs : NoSends m) (h : Nested) (t : Trigger) (tr : Transn) (c : Cfg) :
    (activate h m t tr c).1.cur = c.cur ∨ (activate h m t tr c).1.cur = some (stateVal m tr.target) := by
  rw [activate_any (hs.at t) h]; exact C04_state_two_values m t tr c

theorem activatePost_cur_any {m : Machine} (hs : NoSends m) (h : Nested) (t : Trigger) (tr : Transn) (c : Cfg) :
    (activatePost h m t tr c).1.cur = some (stateVal m tr.target) := by
  rw [activatePost_any (hs.at t) h]; exact activatePost_cur m t tr c

/-- non-RTC `processing_loop` (`popTrigger`): an exception raised while the popped event is processed reaches the
caller as it is, with the configuration the event left (this mode never takes the lock) -/
theorem C04_nonrtc_propagates (h : Nested) (m : Machine) (c : Cfg) (t : Trigger) (q : List Trigger)
    (hq : c.queue = t :: q) (e : Exc) (he : (trigger h m t { c with queue := q }).2 = .error e) :
    (popTrigger h m c).2 = .error e ∧ (popTrigger h m c).1 = (trigger h m t { c with queue := q }).1 := by
  rw [popTrigger_cons h m hq, he]
  exact ⟨rfl, rfl⟩

end SMV
