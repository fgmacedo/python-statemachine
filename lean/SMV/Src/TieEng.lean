import SMV.Src.Expected
/-!
# The engine's small functions and the event data, as the source says (C03, C07, C11, C16)

Readings of the scripts of `IREng` (namespace `E`), each where one of those properties leans on it.
-/
namespace SMV.Src
open E

/-- `put` enqueues at the tail: the FIFO order C03 is about starts here -/
theorem runPut_enqueue {α} (t : α) (q : List α) : runPut t Expected.engBase.put q = q ++ [t] := rfl

/-- every engine gets a queue and a lock of its own from its constructor (that nothing else is shared between
machines rests on the translator, which refuses class-level attributes on the engine classes) -/
theorem engine_owns_queue_and_lock :
    Expected.engBase.baseInit = [.proxyMachine, .newQueue, .newSentinel, .fieldRtc, .newLock, .noActivation] :=
  rfl

/-- the `__initial__` pseudo-transition (`initTr`) has no specs of its own; the sync engine's `start` queues the
activation and drains at once, the async engine only queues it (no `start` / `put` of its own) and
`activate_initial_state` is the awaited processing loop -/
theorem activation_shape :
    Expected.engBase.initialTransition = [.anonymousSourceToInitialState, .clearSpecs, .ret] ∧
    Expected.engBase.syncStart = [.superStart, .activate] ∧
    Expected.engBase.syncActivate = [.retProcessingLoop false] ∧
    Expected.engBase.asyncActivate = [.retProcessingLoop true] ∧
    Expected.engBase.asyncHasOwnStart = false := ⟨rfl, rfl, rfl, rfl, rfl⟩

/-- the built-in names a callback can ask for are bound to the data of the event being processed: `event_data` to the
`EventData` object, the others to its fields of the same name; `state` and `source` start as the transition's source,
`target` as its target, `model` is the machine's model -/
theorem builtins_describe_the_event :
    builtinsOk Expected.engBase.extendedKwargs = true ∧
    Expected.engBase.eventPostInit = [⟨"state", "self.transition.source"⟩, ⟨"source", "self.transition.source"⟩,
      ⟨"target", "self.transition.target"⟩, ⟨"machine", "self.trigger_data.machine"⟩] ∧
    Expected.engBase.triggerPostInit = [⟨"model", "self.machine.model"⟩] :=
  ⟨beq_self_eq_true _, rfl, rfl⟩

end SMV.Src
