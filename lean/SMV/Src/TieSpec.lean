import SMV.Src.Expected
/-!
# The callback specs every owner gets, as the source says (C02, C12, C14, C08)
-/
namespace SMV.Src
open P SMV.Reg

/-- the priorities are the numbers the registry model's `Spec.prio` uses (`insort` orders executors by them) -/
theorem priorities_model :
    Expected.specs.priorities = [("GENERIC", 0), ("INLINE", 10), ("DECORATOR", 20), ("NAMING", 30), ("AFTER", 40)] :=
  rfl

/-- `Transition._setup`: for every event of the transition `before_<e>` / `on_<e>` / `after_<e>`, *scoped to that
event*; no convention spec for guards or validators -/
theorem transitionSetup_shape :
    Expected.specs.transitionSetup =
      [⟨"before", "before_transition", "GENERIC", false⟩, ⟨"on", "on_transition", "GENERIC", false⟩,
       ⟨"before", "before_*", "NAMING", true⟩, ⟨"on", "on_*", "NAMING", true⟩, ⟨"after", "after_*", "NAMING", true⟩,
       ⟨"after", "after_transition", "AFTER", false⟩] := rfl

/-- `State._setup` -/
theorem stateSetup_shape :
    Expected.specs.stateSetup =
      [⟨"enter", "on_enter_state", "GENERIC", false⟩, ⟨"enter", "on_enter_*", "NAMING", false⟩,
       ⟨"exit", "on_exit_state", "GENERIC", false⟩, ⟨"exit", "on_exit_*", "NAMING", false⟩] := rfl

/-- an event-named convention callback becomes a model `Spec` with `only := some e`: it runs for that event only
(C02: "event-scoped callbacks on multi-event transitions"), the generic ones with `only := none` -/
theorem event_convention_is_scoped (g : Group) (n : Prov.Name) (e : EventId) :
    (⟨"on", "on_*", "NAMING", true⟩ : Conv).toSpec Expected.specs.priorities g n e =
      some { group := g, ref := .name n, prio := 30, only := some e, expected := true } ∧
    (⟨"after", "after_transition", "AFTER", false⟩ : Conv).toSpec Expected.specs.priorities g n e =
      some { group := g, ref := .name n, prio := 40, only := none, expected := true } := by
  -- the two look-ups in the table are closed terms over strings, which the elaborator compares slowly
  have : prioOf Expected.specs.priorities "NAMING" = some 30 ∧ prioOf Expected.specs.priorities "AFTER" = some 40 := by
    decide +kernel
  simp [Conv.toSpec, this]

/-- two specs are the same spec iff function, group and expected value agree (`cond="x"` and `unless="x"` differ: D20);
the spec list ignores a spec that is already there, executors are per (group, owner's spec list), and an event-scoped
callback applies iff the event *is* that event -/
theorem spec_identity :
    Expected.specs.specEq = .funcGroupExpected ∧
    Expected.specs.listAdd = [.specOrBuild, .returnIfEqualSpecPresent, .append, .noteConvention, .ret] ∧
    Expected.specs.groupKeyPerOwnerList = true ∧ Expected.specs.sameEventIsEquality = true :=
  ⟨rfl, rfl, rfl, rfl⟩

end SMV.Src
