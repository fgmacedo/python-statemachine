import SMV.Src.Expected
/-!
# The metaclass' elaboration steps, as the source says (C15, C16; also C09, C10, C13)

Each theorem reads a script back: it says which statements, in the vocabulary of `IRFactory.Stmt`, the
source-derived `Expected.factory` holds for one function of `factory.py`, and nothing about what they do. Which
source line a constructor stands for is said at its declaration in `SMV/Src/IRFactory.lean`. These are the steps
the store model of the class body (`SMV/Model/Decl.lean`) mirrors by hand: no theorem relates that model to the
scripts, so the theorems about it (`C15_*`, `C16_subclass_frame_partial`, …) are to be read against what is stated
here.
-/
namespace SMV.Src
open F

/-- `add_inherited` registers the states of each base by `add_state(…, inherited=True)`: see the last statement of
`addState_shape` for what that does to their events (D7b) -/
theorem addInherited_shape :
    Expected.factory.addInherited = [.inheritStatesOfEachBase, .redeclareEventsOfEachBaseById] := rfl

/-- `add_from_attributes` makes these tests on each attribute, in this order -/
theorem addFromAttributes_shape :
    Expected.factory.addFromAttributes = [.ifStatesAddEach, .ifStateAddState, .elifTransitionsAddEventNamedByAttribute,
      .elifEventAddEventKeepingNameRememberingOld, .elifDecoratedCallback] ∧
    Expected.factory.addStatesFromDict = [.addEachStateOfDict] ∧
    Expected.factory.addUnboundedCallback = [.setCallbackUnderItsAttrName, .ifEventAddEventNamedByAttribute] :=
  ⟨rfl, rfl, rfl⟩

/-- `add_state` (the map from values to states is the class's own: the metaclass' `__init__` creates it,
`Expected.metaInit`) -/
theorem addState_shape :
    Expected.factory.addState = [.setId, .appendToStates, .mapValueToState, .setAttrUnlessPresent,
      .registerEventsOfItsTransitionsFreshIfInherited] := rfl

/-- `add_event` tells the transitions with the states registered *so far*: what `from_.any()` expands onto (D16a) -/
theorem addEvent_shape :
    Expected.factory.addEvent = [.idlessRememberAndReturn, .tellTransitionsWithStatesSoFar, .declareIfNew,
      .rememberReplacement, .retDeclared] := rfl

/-- `_update_event_references`: one scan of all transitions per pending event, replacing or raising; then the pending
map is emptied -/
theorem updateEventReferences_shape :
    Expected.factory.updateEventReferences = [.forEachPendingScanAllTransitionsReplaceOrRaise, .resetPending] :=
  rfl

/-- `_setup`: the protected names are these fixed ones and the state ids -/
theorem setup_shape :
    Expected.factory.setup = [.setupEveryStateAndTransition, .protectedAttrs ["_abstract", "_events", "final_states",
      "initial_state", "model", "send", "start_value", "state_field", "states", "states_map"]] := rfl

end SMV.Src
