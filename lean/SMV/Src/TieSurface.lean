import SMV.Src.Expected
/-!
# Special methods and identity, as the source says (C01, C10, C13, C15, C16, C17, C18)
-/
namespace SMV.Src
open U

/-- the class lookups the theorems below need, evaluated together and by the kernel alone: what costs is comparing
strings (every class name on the way to the one asked for is unfolded to its bytes), the elaborator's evaluator is much
dearer than the kernel's there, and inside one declaration the kernel unfolds each name once -/
theorem surface_dunders :
    noCopyHooks Expected.surface = true ∧
    dundersOf Expected.surface "StateMachine" =
      ["__getstate__", "__init__", "__init_subclass__", "__repr__", "__setstate__"] ∧
    dundersOf Expected.surface "TransitionList" = ["__getitem__", "__init__", "__len__", "__or__", "__repr__"] ∧
    dundersOf Expected.surface "State" = ["__eq__", "__get__", "__hash__", "__init__", "__repr__", "__set__", "__str__"] ∧
    dundersOf Expected.surface "InstanceState" = ["__eq__", "__hash__", "__init__", "__repr__"] ∧
    dundersOf Expected.surface "Event" = ["__call__", "__get__", "__new__", "__repr__"] ∧
    dundersOf Expected.surface "BoundEvent" = [] := by decide +kernel

/-- a copy (`copy.deepcopy`, pickle) goes through `StateMachine.__getstate__` / `__setstate__` and nothing else: no
class of the package defines `__copy__`, `__deepcopy__`, `__reduce__` or `__reduce_ex__` (events, states, transitions are
copied like any object; the clone theorems of C17 are about `__setstate__`) -/
theorem no_copy_hooks :
    noCopyHooks Expected.surface = true ∧
    dundersOf Expected.surface "StateMachine" =
      ["__getstate__", "__init__", "__init_subclass__", "__repr__", "__setstate__"] := by
  obtain ⟨hNoHooks, hMachine, _⟩ := surface_dunders
  exact ⟨hNoHooks, hMachine⟩

/-- `|` is the only operator a transition list defines: `a |= b` is `a = a | b`, a new list (aliases are untouched) -/
theorem transitionList_operators :
    dundersOf Expected.surface "TransitionList" = ["__getitem__", "__init__", "__len__", "__or__", "__repr__"] := by
  obtain ⟨_, _, hList, _⟩ := surface_dunders
  exact hList

/-- a state is identified by name and id, hashes like its `repr`; a machine sees one `InstanceState` per state, which
compares and hashes like the state it stands for and is active iff it is the machine's current state (C10: exactly the
state mapped to the stored value is active; C18: the node that is highlighted) -/
theorem state_identity :
    Expected.surface.stateEq = .stateEqByNameAndId ∧ Expected.surface.stateHash = .hashOfRepr ∧
    Expected.surface.stateGet = .classGivesStateInstanceGivesInstanceState ∧
    Expected.surface.forInstance = .oneInstanceStatePerMachine ∧ Expected.surface.setId = .idThenDefaultValueAndName ∧
    Expected.surface.instEq = .delegateEqToState ∧ Expected.surface.instHash = .hashOfStateRepr ∧
    Expected.surface.isActive = .activeIffCurrent ∧
    dundersOf Expected.surface "State" = ["__eq__", "__get__", "__hash__", "__init__", "__repr__", "__set__", "__str__"] ∧
    dundersOf Expected.surface "InstanceState" = ["__eq__", "__hash__", "__init__", "__repr__"] := by
  obtain ⟨_, _, _, hState, hInstance, _⟩ := surface_dunders
  exact ⟨rfl, rfl, rfl, rfl, rfl, rfl, rfl, rfl, hState, hInstance⟩

/-- `sm.<event>` is a fresh trigger bound to the instance it was read from, every time (nothing is cached per class,
per machine or per equal machine: C13, C16) -/
theorem event_get_fresh :
    Expected.surface.eventGet = .freshBoundEventPerAccess ∧
    dundersOf Expected.surface "Event" = ["__call__", "__get__", "__new__", "__repr__"] ∧
    dundersOf Expected.surface "BoundEvent" = [] := by
  obtain ⟨_, _, _, _, _, hEvent, hBound⟩ := surface_dunders
  exact ⟨rfl, hEvent, hBound⟩

end SMV.Src
