import SMV.Src.Expected
import SMV.Lemmas.EngineEq
/-!
# The source-derived scripts mean the hand-written engine model

`Expected.*` are the scripts `harness/srcgen.py` derives from the library's source (here `engines/*.py`, `callbacks.py`,
`event.py`, `StateMachine.send`); interpreting them gives exactly the functions of `SMV/Model/Engine.lean` (`runA`,
`runT`, `runP`: `activate`, `trigger`, `process`, with `start`, the wrappers and the executors), so the engine
theorems (C01–C05, C11, C13, C14) are theorems about what the scripts say; `construct`, `drainStep` and the histories
`runOps` / `runHist` are model-side compositions with no script of their own. The check lets the kernel decide on
every run that the scripts regenerated from the tree under test are the expected ones.
-/
namespace SMV

instance instLawfulMonadEM : LawfulMonad EM := LawfulMonad.mk'
  (id_map := fun x => by
    funext c
    simp only [Functor.map]
    rcases x c with ⟨c', a | a⟩ <;> rfl)
  (pure_bind := fun _ _ => rfl)
  (bind_assoc := fun x f g => by
    funext c
    rw [EM.bind_apply (x >>= f), EM.bind_apply x, EM.bind_apply x]
    rcases x c with ⟨c', a | a⟩ <;> rfl)

theorem runGroup_nil (h : Nested) (m : Machine) (x : Ctx) (ph : Phase) : runGroup h m x ph [] = pure [] := rfl

end SMV

namespace SMV.Src
open SMV

/-- `if <test>: <call>` with the values dropped calls the group or nothing — how the model writes it (both tests say
"not internal": `transition.source` is never `None`) -/
theorem runA_ifCall_drop (h : Nested) (m : Machine) (t : Trigger) (a : ATr) (tst : ATest) (g : Phase) (o : Owner)
    (aw : Bool) (r : List AStmt) (e : AEnv) :
    runA h m t a (.ifCall tst ⟨g, o, .drop, aw⟩ :: r) e =
      (do let _ ← runGroup h m (a.ctx t) g (if a.tr.internal then [] else groupOf m t a g o)
          runA h m t a r e) := by
  have ht : tst.holds a = !a.tr.internal := by cases tst <;> rfl
  rw [runA, ht]
  cases a.tr.internal
  · rfl
  · exact (pure_bind _ _).symm  -- the empty group is `pure []` (`runGroup_nil`)

/-- the `_activate` script means `activate`, for every declared transition -/
theorem runA_activate (h : Nested) (m : Machine) (t : Trigger) (tr : Transn) :
    runA h m t { tr := tr } Expected.activateSync {} = activate h m t tr := by
  -- `↓`: before the equation of `runA` for `ifCall` fires, which would split the rest of the script in two.
  -- `if_false` and `Option.getD_some` bring the script's side to the model's text: `rfl` below then need not compute
  -- through the remaining binds
  simp only [Expected.activateSync, ↓runA_ifCall_drop, runA, activate, activatePre, activatePost, ATr.ctx, groupOf,
    AEnv.store, bind_assoc, pure_bind, Bool.false_eq_true, if_false, Option.getD_some]
  refine bind_congr fun _ => bind_congr fun ok => ?_
  cases ok
  · rfl
  · simp only [Bool.not_true, Bool.false_eq_true, if_false, bind_assoc, pure_bind]

/-- the meaning of a script does not depend on the `await`s (coroutine callbacks are callbacks) -/
theorem runA_eraseAwaits (h : Nested) (m : Machine) (t : Trigger) (a : ATr) (s : List AStmt) (e : AEnv) :
    runA h m t a (eraseAwaits s) e = runA h m t a s e := by
  induction s generalizing e with
  | nil => rfl
  | cons st r ih => cases st <;> simp only [eraseAwaits, runA, ih]

/-- the async engine's `_activate` is the sync engine's with every group call awaited -/
theorem activateAsync_erase : eraseAwaits Expected.activateAsync = Expected.activateSync := rfl

theorem activate_awaits : awaitsAre true Expected.activateAsync = true ∧ awaitsAre false Expected.activateSync = true := by
  decide

theorem runA_activate_async (h : Nested) (m : Machine) (t : Trigger) (tr : Transn) :
    runA h m t { tr := tr } Expected.activateAsync {} = activate h m t tr := by
  rw [← runA_eraseAwaits, activateAsync_erase, runA_activate]

/-- what every callback is shown as `state` (`event_data.state` and the `state` keyword alike) and whether the model
field has been assigned by then, as documented (`viewOf`) — read off the script -/
theorem activate_views : viewsOk Expected.activateSync = true ∧ viewsOk Expected.activateAsync = true := by decide

/-- the script on the `__initial__` pseudo-transition: assign the state, run `enter(target)`, nothing else -/
theorem runA_initial (h : Nested) (m : Machine) (t : Trigger) (s : StateId) :
    runA h m t (initTr s) Expected.activateSync {} = (do
      setState t (stateVal m s)
      let _ ← runGroup h m { t := t, src := none, tgt := s } .enter (stateDef m s).enter
      pure (some .none)) := by
  -- by computation: the pseudo-transition has no callbacks of its own, and `pure` binds away definitionally
  rfl

theorem actInitial_eq (h : Nested) (m : Machine) (t : Trigger) :
    actInitial h m t Expected.activateSync = activateInitial h m t := by
  unfold actInitial activateInitial
  cases initialTarget m with
  | error e => rfl
  | ok s => simp only [runA_initial, bind_assoc, pure_bind]

/-- the script's candidate loop is left by `break` with the result of the first executed candidate, or exhausted with
`executed = False` -/
theorem runFor_tryCands (h : Nested) (m : Machine) (t : Trigger) (trs : List Transn) (e : TEnv)
    (he : e.executed = false) (hr : e.result = .none) :
    runFor (activate h m t) t.event [.skipUnlessMatch, .activate false, .continueUnlessExecuted, .brk] trs e
      = (do
        match ← tryCands h m t trs with
        | none => pure (e, false)
        | some r => pure ({ e with executed := true, result := r }, true)) := by
  obtain ⟨_, _, st⟩ := e
  cases he; cases hr
  induction trs with
  | nil => rfl
  | cons tr rest ih =>
    rw [runFor, runBody, tryCands]
    cases matchesEv tr t.event
    · exact ih
    · simp only [if_true, runBody, bind_assoc]
      refine bind_congr fun o => ?_
      cases o with
      | none => exact ih
      | some r => rfl

/-- the `_trigger` script means `trigger` -/
theorem runT_trigger (h : Nested) (m : Machine) (t : Trigger) :
    runT m t (activate h m t) (activateInitial h m t) Expected.triggerSync {} = trigger h m t := by
  funext c
  simp only [Expected.triggerSync, runT, trigger, EM.get_bind]
  -- `cases` on the two tests, not `split`, which simplifies the whole goal, rest of the script included, per branch
  cases h1 : (t.event == initialEv && c.cur.isNone)
  · cases h2 : (t.event == initialEv && t.internal)
    · simp only [Bool.false_eq_true, if_false, EM.get_bind]
      cases hs : c.cur.bind (lookupState m) with
      | none => rfl
      | some s =>
        simp only [runFor_tryCands h m t (out m s) { state := some s } rfl rfl, bind_assoc]
        refine congrFun (bind_congr fun o => ?_) c
        cases o with
        | none => cases hal : m.allow <;> rfl
        | some r => rfl
    · rfl
  · rfl

theorem runBody_erase (act : Transn → EM (Option Res)) (ev : EventId) (tr : Transn) (b : List LStmt) (e : TEnv) :
    runBody act ev tr (b.map eraseL) e
      = runBody act ev tr b e := by
  induction b generalizing e with
  | nil => rfl
  | cons s r ih => cases s <;> simp only [runBody, eraseL, ih, List.map_cons]

theorem runFor_erase (act : Transn → EM (Option Res)) (ev : EventId) (b : List LStmt) (trs : List Transn) (e : TEnv) :
    runFor act ev (b.map eraseL) trs e
      = runFor act ev b trs e := by
  induction trs generalizing e with
  | nil => rfl
  | cons tr rest ih => simp only [runFor, runBody_erase, ih]

theorem runT_eraseAwaits (m : Machine) (t : Trigger) (act : Transn → EM (Option Res)) (actI : EM Unit)
    (s : List TStmt) (e : TEnv) :
    runT m t act actI (eraseAwaitsT s) e = runT m t act actI s e := by
  induction s generalizing e with
  | nil => rfl
  | cons st r ih => cases st <;> simp only [eraseAwaitsT, runT, ih, runFor_erase]

/-- the async engine's `_trigger` is the sync engine's with both `_activate` calls awaited -/
theorem triggerAsync_erase : eraseAwaitsT Expected.triggerAsync = Expected.triggerSync := rfl

theorem trigger_awaits :
    awaitsAreT true Expected.triggerAsync = true ∧ awaitsAreT false Expected.triggerSync = true := by decide

theorem runT_trigger_async (h : Nested) (m : Machine) (t : Trigger) :
    runT m t (activate h m t) (activateInitial h m t) Expected.triggerAsync {} = trigger h m t := by
  rw [← runT_eraseAwaits, triggerAsync_erase, runT_trigger]

/-- `_trigger` over `_activate`, both as scripts, is the model's `trigger` -/
theorem scripts_trigger (h : Nested) (m : Machine) (t : Trigger) :
    runT m t (fun tr => runA h m t { tr := tr } Expected.activateSync {})
      (actInitial h m t Expected.activateSync) Expected.triggerSync {} = trigger h m t := by
  rw [funext (runA_activate h m t), actInitial_eq, runT_trigger]

theorem drainW_ok_queue (trig : Trigger → EM (Option Res)) (isBase : Exc → Bool) (sel : ExcSel) (fuel : Nat)
    (first : Option Res) (cfg : Cfg) {cfg' : Cfg} {f : Option Res}
    (h : drainW trig isBase sel fuel first cfg = (cfg', .ok f)) : cfg'.queue = [] := by
  -- the loop returns normally only from the two branches that found the queue empty
  fun_induction drainW trig isBase sel fuel first cfg with
  | case1 _ _ hq =>
    cases h
    exact hq
  | case3 _ _ _ hq =>
    cases h
    exact hq
  | case4 _ _ _ _ _ _ _ _ _ ih => exact ih h
  | case2 | case5 | case6 => cases h

/-- the model's drain loop is the script's `while` block with the handler `except BaseException`, the sentinel read
as `None` on the way out -/
theorem drainLoop_eq_drainW (m : Machine) (isBase : Exc → Bool) (fuel : Nat) (first : Option Res) (cfg : Cfg) :
    drainLoop m fuel first cfg =
      ((drainW (trigger nestedRtc m) isBase .baseException fuel first cfg).1,
        (drainW (trigger nestedRtc m) isBase .baseException fuel first cfg).2.map (·.getD .none)) := by
  induction fuel generalizing first cfg with
  | zero =>
    unfold drainW drainLoop
    cases cfg.queue <;> rfl
  | succ n ih =>
    unfold drainW drainLoop
    cases cfg.queue with
    | nil => rfl
    | cons t q =>
      dsimp only
      rcases trigger nestedRtc m t { cfg with queue := q } with ⟨c', e | r⟩
      · rfl
      · exact ih _ _

theorem drainW_drainLoop (m : Machine) (isBase : Exc → Bool) (fuel : Nat) (first : Option Res) (cfg : Cfg) :
    (drainW (trigger nestedRtc m) isBase .baseException fuel first cfg).1 = (drainLoop m fuel first cfg).1
    ∧ (match (drainW (trigger nestedRtc m) isBase .baseException fuel first cfg).2 with
       | .ok f => (drainLoop m fuel first cfg).2 = .ok (f.getD .none)
           ∧ (drainW (trigger nestedRtc m) isBase .baseException fuel first cfg).1.queue = []
       | .error e => (drainLoop m fuel first cfg).2 = .error e) := by
  rw [drainLoop_eq_drainW m isBase]
  refine ⟨rfl, ?_⟩
  rcases hw : drainW (trigger nestedRtc m) isBase .baseException fuel first cfg with ⟨c', e | f⟩
  · rfl
  · exact ⟨rfl, drainW_ok_queue _ _ _ _ _ _ hw⟩

/-- whatever `_trigger` does: the mode test passes, and the re-check after the release finds the queue the drain has
just emptied (one thread alone) -/
theorem runP_sync_async (trig : Trigger → EM (Option Res)) (isBase : Exc → Bool) (full full' : List PStmt)
    (fuel : Nat) (first : Option Res) :
    runP true trig isBase full fuel Expected.processSync first =
      runP true trig isBase full' fuel Expected.processAsync first := by
  funext cfg
  cases hl : cfg.locked
  · rcases hw : drainW trig isBase .baseException fuel none { cfg with locked := true } with ⟨c', e | f⟩
    · simp [Expected.processSync, Expected.processAsync, runP, hl, hw]
    · have hq := drainW_ok_queue _ _ _ _ _ _ hw
      -- only the re-check looks at the fuel
      cases fuel <;> simp [Expected.processSync, Expected.processAsync, runP, hl, hw, hq]
  · simp [Expected.processSync, Expected.processAsync, runP, hl]

/-- the async engine's `processing_loop` script means `processRtc` -/
theorem runP_async (m : Machine) (isBase : Exc → Bool) (fuel : Nat) :
    runP true (trigger nestedRtc m) isBase Expected.processAsync fuel Expected.processAsync none
      = processRtc m fuel := by
  funext cfg
  cases hl : cfg.locked
  · rw [processRtc_unlocked m fuel hl, drainLoop_eq_drainW m isBase]
    rcases hw : drainW (trigger nestedRtc m) isBase .baseException fuel none { cfg with locked := true }
      with ⟨c', e | f⟩ <;> simp [Expected.processAsync, runP, hl, hw, Except.map]
  · simp [Expected.processAsync, runP, processRtc, hl]

/-- the sync engine's `processing_loop` script under `rtc=True` means `processRtc` too -/
theorem runP_rtc (m : Machine) (isBase : Exc → Bool) (fuel : Nat) :
    runP true (trigger nestedRtc m) isBase Expected.processSync fuel Expected.processSync none
      = processRtc m fuel := by
  rw [runP_sync_async, runP_async]

/-- under `rtc=False` the sync engine's `processing_loop` script pops one trigger and runs it at once -/
theorem runP_nonrtc (m : Machine) (h : Nested) (isBase : Exc → Bool) (fuel : Nat) :
    runP false (trigger h m) isBase Expected.processSync fuel Expected.processSync none
      = popTrigger h m := by
  -- the first statement returns: one step of the interpreter, whatever the fuel
  rw [Expected.processSync, runP]
  rfl

/-- the sync script means `process` for both processing modes -/
theorem runP_process (m : Machine) (o : Opts) (isBase : Exc → Bool) (fuel : Nat) :
    runP o.rtc (trigger (if o.rtc then nestedRtc else sendNR m fuel) m) isBase Expected.processSync fuel
      Expected.processSync none = process m o fuel := by
  unfold process
  cases o.rtc
  · exact runP_nonrtc m (sendNR m fuel) isBase fuel
  · exact runP_rtc m isBase fuel

/-- C05 at the level of the scripts -/
theorem runP_async_eq_sync (m : Machine) (isBase : Exc → Bool) (fuel : Nat) :
    runP true (trigger nestedRtc m) isBase Expected.processAsync fuel Expected.processAsync none
      = runP true (trigger nestedRtc m) isBase Expected.processSync fuel Expected.processSync none :=
  (runP_sync_async ..).symm

/-- `sm.send(e)` from inside a callback under run-to-completion — `put`, then `processing_loop()` while the
lock is held — only enqueues and returns `None`: the model's handler `nestedRtc` is what the scripts say -/
theorem nested_send_is_enqueue (m : Machine) (isBase : Exc → Bool) (fuel : Nat) (e : EventId) (cfg : Cfg)
    (hl : cfg.locked = true) :
    (do enqueue e; runP true (trigger nestedRtc m) isBase Expected.processSync fuel Expected.processSync none) cfg
      = nestedRtc e cfg := by
  rw [runP_rtc]
  simp [nestedRtc, enqueue, processRtc, EM.modify, bind, hl, pure]

/-- `callbacks.py`: a wrapper of a guard (`expected_value` True for `cond`, False for `unless`) or of an action (no
expected value), invoked either way (`call`, and `__call__` which also awaits an awaitable). `.drop 1`: `runW`
consumes the leading `.invoke` itself -/
theorem wrapper_meaning (truthy : Val → Bool) (v : Val) (e : Bool) :
    tailW truthy (some e) v (Expected.wrapperCall.drop 1) = .bool (truthy v == e) ∧
    tailW truthy none v (Expected.wrapperCall.drop 1) = .val v ∧
    tailW truthy (some e) v (Expected.wrapperDunder.drop 1) = .bool (truthy v == e) ∧
    tailW truthy none v (Expected.wrapperDunder.drop 1) = .val v :=
  ⟨rfl, rfl, rfl, rfl⟩

theorem guardLoop_runConds (h : Nested) (m : Machine) (x : Ctx) (r : List WStmt)
    (hw : ∀ v e, tailW m.truthy (some e) v r = .bool (m.truthy v == e)) (gs : List (CbId × Bool)) :
    guardLoop (fun c => runCb h m x .cond c) m.truthy (.invoke :: r) gs = runConds h m x gs := by
  induction gs with
  | nil => rfl
  | cons g gs ih =>
    obtain ⟨c, e⟩ := g
    simp only [guardLoop, runW, runConds, bind_assoc, pure_bind, hw]
    refine bind_congr fun v => ?_
    cases (m.truthy v == e)
    · rfl
    · exact ih

/-- `for condition in self: if not condition(…): return False` / `return True` — however the wrapper is invoked and
whether it is awaited -/
theorem runXG_forGuards (h : Nested) (m : Machine) (x : Ctx) (r : List WStmt)
    (hw : ∀ v e, tailW m.truthy (some e) v r = .bool (m.truthy v == e)) (via : Via) (aw : Bool)
    (gs : List (CbId × Bool)) :
    runXG (fun c => runCb h m x .cond c) m.truthy (.invoke :: r) [.forGuards via aw, .retTrue] gs
      = runConds h m x gs := by
  simp only [runXG, guardLoop_runConds h m x r hw]
  refine (bind_congr fun ok => ?_).trans (bind_pure _)
  cases ok <;> rfl

/-- the `all` script over the wrapper script is `runConds`: conjunction, left to right, stop at the first guard whose
truth value is not the expected one -/
theorem runXG_all (h : Nested) (m : Machine) (x : Ctx) (gs : List (CbId × Bool)) :
    runXG (fun c => runCb h m x .cond c) m.truthy Expected.wrapperCall Expected.execAll gs = runConds h m x gs :=
  runXG_forGuards h m x _ (fun v e => (wrapper_meaning m.truthy v e).1) _ _ gs

/-- `async_all` awaits the guards one after the other (the repair of D11) -/
theorem runXG_async_all (h : Nested) (m : Machine) (x : Ctx) (gs : List (CbId × Bool)) :
    runXG (fun c => runCb h m x .cond c) m.truthy Expected.wrapperDunder Expected.execAsyncAll gs
      = runConds h m x gs :=
  runXG_forGuards h m x _ (fun v e => (wrapper_meaning m.truthy v e).2.2.1) _ _ gs

theorem callEach_runGroup (h : Nested) (m : Machine) (x : Ctx) (ph : Phase) (r : List WStmt)
    (hw : ∀ v, tailW m.truthy none v r = .val v) (cs : List CbId) :
    callEach (fun c => runCb h m x ph c) m.truthy (.invoke :: r) cs = runGroup h m x ph cs := by
  induction cs with
  | nil => rfl
  | cons c cs ih => simp only [callEach, runW, runGroup, bind_assoc, pure_bind, hw, ih]

/-- the `call` script is `runGroup` over the callbacks whose `condition` holds for the event (`applicable`) -/
theorem runXA_call (h : Nested) (m : Machine) (x : Ctx) (ph : Phase) (ev : EventId) (specs : List CbSpec) :
    runXA (fun c => runCb h m x ph c) m.truthy Expected.wrapperCall ev Expected.execCall specs
      = runGroup h m x ph (applicable ev specs) :=
  callEach_runGroup h m x ph _ (fun v => (wrapper_meaning m.truthy v true).2.1) _

/-- `async_call` spawns a task per applicable callback and gathers them; read sequentially -/
theorem runXA_async_call (h : Nested) (m : Machine) (x : Ctx) (ph : Phase) (ev : EventId) (specs : List CbSpec) :
    runXA (fun c => runCb h m x ph c) m.truthy Expected.wrapperDunder ev Expected.execAsyncCall specs
      = runGroup h m x ph (applicable ev specs) :=
  callEach_runGroup h m x ph _ (fun v => (wrapper_meaning m.truthy v true).2.2.2) _

/-- calling a bound event: put the trigger, run the processing loop, hand back what the loop returns -/
theorem runE_send (m : Machine) (o : Opts) (fuel : Nat) (e : EventId) :
    runE (process m o fuel) e Expected.eventCall none = send m o fuel e := by
  simp only [Expected.eventCall, runE, send, bind_pure]

/-- `sm.send(name)` resolves the name to an event bound to this machine — the declared one, or an ad-hoc one for an
undeclared name — and calls it: one entry point with the event method (C13), also for names that are no events -/
theorem runS_send (m : Machine) (o : Opts) (fuel : Nat) (e : EventId) :
    runS (fun e => runE (process m o fuel) e Expected.eventCall none) e Expected.smSend none = send m o fuel e := by
  simp only [Expected.smSend, runS, runE_send, bind_pure]

/-- `BaseEngine.start` queues the engine's own activation trigger iff the model holds no state -/
theorem runStart_start : runStart Expected.engineStart = start := by
  unfold start
  simp only [Expected.engineStart, runStart]
  refine bind_congr fun cfg => ?_
  cases cfg.cur
  · exact bind_pure_unit
  · rfl

/-- the names `Event.__call__` strips from the caller's keywords are exactly those `EventData` injects
(`extended_kwargs`; there are eight): a user value never shadows a built-in, and nothing else is taken away (C07) -/
theorem reserved_eq_injected :
    Expected.reservedNames = Expected.injectedNames ∧ Expected.reservedNames.length = 8 ∧
    Expected.reservedNames.Nodup := ⟨rfl, rfl, by simp [Expected.reservedNames]⟩

end SMV.Src

