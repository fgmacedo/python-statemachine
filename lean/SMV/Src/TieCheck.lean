import SMV.Src.Expected
import SMV.Lemmas.Bfs
/-!
# The source-derived scripts of the class checks mean the validation model (C09)

`Expected.visitConnected` is derived from `graph.visit_connected_states`, `Expected.classCheck` from
`StateMachineMetaclass._check` and the `_check_*` methods it calls, `Expected.metaInit` from the metaclass'
`__init__`, `Expected.transitionInit` from `Transition.__init__`. The theorems say that interpreting them is `go` /
`bfs` / `check` of `SMV/Model/Validate.lean` for every class definition.
-/
namespace SMV.Src
open SMV.Validate V

/-- the loop body of `visit_connected_states` as derived -/
def visitBody : List V.LStmt := [.popLeft, .skipIfVisited, .markVisited, .yieldState, .extendTargets]

theorem visit_shape :
    Expected.visitConnected = [.initDeque, .initVisited, .pushStart, .whileNonEmpty visitBody] := rfl

theorem visitBody_round (succ : Nat → List Nat) (x : Nat) (w vis ys : List Nat) (c : Option Nat) (b : Nat) :
    V.runBody succ visitBody ⟨x :: w, vis, ys, c, b⟩ =
      if x ∈ vis then ((⟨w, vis, ys, some x, b⟩ : GSt), V.Flow.cont)
      else match b with
        | 0 => ((⟨w, vis, ys, some x, 0⟩ : GSt), V.Flow.halt)
        | b' + 1 => ((⟨w ++ succ x, x :: vis, ys ++ [x], some x, b'⟩ : GSt), V.Flow.next) := by
  simp only [visitBody, V.runBody, List.contains_iff_mem]
  cases b <;> rfl

/-- **the `while visit:` loop of the source is `go`** (the visited set, most recent first): round by round it is the
literal loop `goW` -/
theorem runLoop_go (succ : Nat → List Nat) (fuel : Nat) (w vis ys : List Nat) (c : Option Nat) :
    (runLoop succ visitBody ⟨w, vis, ys, c, fuel⟩).visited = go succ fuel w vis := by
  rw [go_eq_goW]
  induction fuel, w, vis using goW.induct succ generalizing ys c with
  | case1 fuel vis => rw [runLoop, goW]
  | case2 fuel s w vis hs ih => rw [runLoop, goW.eq_def]; simp [visitBody_round, hs, progress, ih]
  | case3 s w vis hs => rw [runLoop, goW.eq_def]; simp [visitBody_round, hs]
  | case4 s w vis hs f ih => rw [runLoop, goW.eq_def]; simp [visitBody_round, hs, progress, ih]

/-- `visit_connected_states(states[s])` as the script says is `bfs s` -/
theorem reachBy_bfs (d : ClassDef) (s : Nat) : reachBy Expected.visitConnected d s = d.bfs s := by
  rw [visit_shape]
  simp [reachBy, runVisit, ClassDef.bfs, runLoop_go]

/- What each issue of the script names, evaluated over the model's `bfs`, is the model's list of that name, by
unfolding: why `runCheck_check` can end in `rfl`. -/

theorem eval_initials (d : ClassDef) : Issue.eval d d.bfs .initials = d.initials := rfl
theorem eval_finals (d : ClassDef) : Issue.eval d d.bfs .finalsWithTransitions = d.finalsWithTransitions := rfl
theorem eval_disconnected (d : ClassDef) : Issue.eval d d.bfs .disconnected = d.disconnected := rfl
theorem eval_trap (d : ClassDef) : Issue.eval d d.bfs .trapStates = d.trapStates := rfl

/-- `true &&` is the `skipUnlessAnyFinal` flag of `_check_reachable_final_states`, in the form `runSteps_call_strict`
leaves it -/
theorem noPathToFinal_eq (d : ClassDef) :
    d.noPathToFinal = if true && !d.states.any (·.final) then [] else Issue.eval d d.bfs .noPathToFinal := by
  cases h : d.states.any (·.final) <;> simp [ClassDef.noPathToFinal, Issue.eval, h]

/-! Each group of statements of `_check` (the statements before the calls; a `_check_*` method that raises; one that
raises only under `strict_states`) is one `if` of the model's `check`, or one `strictStep`, in front of what the rest
of the script comes to: the lemmas take the verdict of the rest as a hypothesis, and `runCheck_check` chains them. -/

theorem runSteps_prelude (d : ClassDef) (reach : Nat → List Nat) (r : List CStep) (v : Verdict)
    (hk : runSteps d reach r { hasStates := some true, hasEvents := some true, abstract := some false } = some v) :
    runSteps d reach (.readHasStates :: .readHasEvents :: .setAbstract :: .returnIfAbstract :: .raiseUnlessStates ::
        .raiseUnlessEvents :: r) {} =
      some (if d.states.isEmpty && d.events.isEmpty then .ok true []
        else if d.states.isEmpty then .invalid .noStates []
        else if d.events.isEmpty then .invalid .noEvents [] else v) := by
  simp only [runSteps]
  -- states and events both present: the rest of the script; otherwise the script has returned or raised
  cases d.states.isEmpty <;> cases d.events.isEmpty
  · exact hk
  · rfl
  · rfl
  · rfl

theorem runSteps_call_raise (d : ClassDef) (reach : Nat → List Nat) (iss : Issue) (trig : Trig) (r : List CStep)
    (c : CSt) (v : Verdict) (hk : runSteps d reach r c = some v) :
    runSteps d reach (.call ⟨false, iss, trig, .raise⟩ :: r) c =
      some (if trig.holds (iss.eval d reach) then .invalid iss.reason (iss.eval d reach) else v) := by
  simp only [runSteps, hk]
  cases trig.holds (iss.eval d reach) <;> rfl

theorem runSteps_call_strict (d : ClassDef) (reach : Nat → List Nat) (skip : Bool) (iss : Issue) (r : List CStep)
    (c : CSt) (k : List (List Nat) → Verdict) (hk : ∀ ws, runSteps d reach r { c with warnings := ws } = some (k ws)) :
    runSteps d reach (.call ⟨skip, iss, .nonEmpty, .strictOrWarn⟩ :: r) c =
      some (strictStep d.strict iss.reason
        (if skip && !d.states.any (·.final) then [] else iss.eval d reach) k c.warnings) := by
  obtain ⟨hs, he, ab, ws⟩ := c
  simp only [runSteps, strictStep, Trig.holds, hk]
  generalize (skip && !d.states.any (·.final)) = b
  generalize iss.eval d reach = xs
  cases b
  · cases xs <;> cases d.strict <;> rfl
  · rfl

/-- **The script of `_check` (with the scripts of the methods it calls and of `visit_connected_states`) means the
model's `check`**: same verdict — accepted / rejected, for which reason, naming which states, with which warnings. -/
theorem runCheck_check (d : ClassDef) :
    runCheck Expected.visitConnected Expected.classCheck d = some (check d) := by
  unfold runCheck check
  rw [funext (reachBy_bfs d), noPathToFinal_eq]
  cases d.specs.all TSpec.constructible
  · rfl
  · apply runSteps_prelude
    iterate 3 apply runSteps_call_raise
    apply runSteps_call_strict; intro _
    apply runSteps_call_strict; intro _
    rfl

/-- the metaclass checks a class only when everything the checks read is in place, and sets it up only afterwards -/
theorem metaInit_order : metaOrderOk Expected.metaInit = true := by decide +kernel

/-- `Transition.__init__` rejects `internal=True` on a transition that is not a self-transition before anything is
registered. Index 3: the test is the fourth statement, after the three assignments `self.source`, `self.target`,
`self.internal` and before `_events`, `_specs` and the five groups are made. -/
theorem transitionInit_shape :
    Expected.transitionInit.idxOf? .rejectInternalNonSelf = some 3 ∧
    groupsOf Expected.transitionInit =
      [("validators", "VALIDATOR", [("validators", none)]), ("before", "BEFORE", [("before", none)]),
       ("on", "ON", [("on", none)]), ("after", "AFTER", [("after", none)]),
       ("cond", "COND", [("cond", some true), ("unless", some false)])] := ⟨rfl, rfl⟩

end SMV.Src
