import SMV.Src.Expected
import SMV.Model.Clone
/-!
# The source-derived scripts of `statemachine.py` mean the store model (C10, C11, C13, C17)

`Expected.store` holds the scripts of `current_state_value` (getter, setter), `current_state` (getter, setter) and
`_get_initial_state`: interpreted, they *are* the functions of `SMV/Model/Store.lean`. The scripts of the constructor,
`_register_callbacks`, `add_listener`, `__getstate__`, `__setstate__`, `events` / `allowed_events` are stated in the
order the registry and clone theorems assume.
-/
namespace SMV.Src
open SMV.Store St

/-- `sm.current_state_value` reads the one cell -/
theorem runVGet_value (st : Store) : runVGet Expected.store.vget st = some (currentStateValue st) := rfl

/-- `sm.current_state_value = v`: membership test first, then the store — the model's `writeValue` -/
theorem runVSet_writeValue (m : Mach) (v : Option Val) (st : Store) :
    runVSet m v Expected.store.vset st = writeValue m v st := by
  cases v <;> rfl

/-- `sm.current_state`: the state mapped to the stored value, `InvalidStateValue` when nothing / an unmapped value
is stored -/
theorem runSGet_currentState (m : Mach) (st : Store) :
    runSGet m Expected.store.sget st = some (currentState m st) := rfl

/-- `sm.current_state = s` goes through the checked setter -/
theorem runSSet_writeState (m : Mach) (s : StateId) (st : Store) :
    runSSet m Expected.store.vset s Expected.store.sset st = some (writeState m s st) :=
  congrArg some (runVSet_writeValue m _ st)

/-- `start_value` is tested with `is not None` (D1) -/
theorem runIGet_initial (m : Mach) (start : Option Val) :
    runIGet m start Expected.store.iget =
      some (initialValue true m start, lookup m (initialValue true m start)) := by
  cases start <;> rfl

/-- the constructor keeps the object the user supplied, whatever its truth value (D2) -/
theorem chooseModelBy_chooseModel (um : Option UserModel) :
    chooseModelBy Expected.smInit um = some (chooseModel true um) := by
  cases um <;> rfl

/-- every provider is registered before the engine is chosen, so the engine kind sees the coroutine callbacks of
listeners (D25b) -/
theorem ctor_order : ctorOrderOk Expected.smInit = true := by decide +kernel

/-- `_register_callbacks`: one pass over machine, model and the given listeners, then the check for unresolved names,
then the engine kind -/
theorem register_shape :
    Expected.registerCallbacks = [.remember, .resolveMachineModelListeners, .checkAll, .asyncOrSync] := rfl

/-- `add_listener`: the pass is remembered (for copies) and resolved over the given listeners only, names only -/
theorem addListener_shape : Expected.addListener = [.remember, .appendPass, .resolveListenersSafe] := rfl

/-- `__getstate__` leaves out exactly what `__setstate__` rebuilds -/
theorem getState_shape :
    Expected.getState = [.copyDict, .put "_rtc", .put "_state_value", .del "_callbacks", .del "_states_for_instance",
      .del "_engine", .ret] := rfl

/-- the order `C17_registry_replay` assumes; an empty model gets its state back first (D30) -/
theorem setState_order : setstateOrderOk Expected.setState = true := by decide +kernel

/-- `allowed_events` lists the events of the transitions of the current state, `events` those the class declares;
both hand out what `getattr(self, name)` gives -/
theorem allowed_shape :
    Expected.allowedEvents = { allowed := [.uniqueEventsOfCurrentState], events := [.declaredEventsOfClass] } := rfl

/-! ## The registry a copy rebuilds, as the scripts say (C17, C12)

The scripts of the constructor, `add_listener` and `__setstate__` interpreted over the name-level registry model
(`SMV/Model/Clone.lean`). Statements that touch neither the registry nor the remembered passes — fields, fresh
containers, popping the pickled values, choosing and starting the engine (its *kind* was fixed by `async_or_sync`
inside `_register_callbacks`: D12) — are skipped. -/
open SMV.Prov

/-- registry and remembered passes after the constructor's script -/
def runCtorReg (isCoro : CbId → Bool) (mm ctor : List Provider) (names required : List Name) :
    List St.CStmt → Option (Except Exc Reg) → List (List Provider) → Option (Except Exc Reg) × List (List Provider)
  | [], r, ps => (r, ps)
  | .firstPass :: rest, r, _ => runCtorReg isCoro mm ctor names required rest r [ctor]
  | .registerCallbacks :: rest, _, ps =>
    runCtorReg isCoro mm ctor names required rest (some (registerAll isCoro (mm ++ ctor) names required)) ps
  | _ :: rest, r, ps => runCtorReg isCoro mm ctor names required rest r ps

/-- `add_listener(*ls)` as its script says -/
def runAddListenerReg (ls : List Provider) (names : List Name) :
    List St.LStmt → Reg → List (List Provider) → Reg × List (List Provider)
  | [], r, ps => (r, ps)
  | .appendPass :: rest, r, ps => runAddListenerReg ls names rest r (ps ++ [ls])
  | .resolveListenersSafe :: rest, r, ps => runAddListenerReg ls names rest (addListeners r ls names) ps
  | .remember :: rest, r, ps => runAddListenerReg ls names rest r ps

/-- `__setstate__` as its script says, given the remembered passes -/
def runSetStateReg (isCoro : CbId → Bool) (mm : List Provider) (passes : List (List Provider))
    (names required : List Name) : List St.SStmt → Option (Except Exc Reg) → Option (Except Exc Reg)
  | [], r => r
  | .registerFirstPass :: rest, _ =>
    runSetStateReg isCoro mm passes names required rest (some (registerAll isCoro (mm ++ passes.headD []) names required))
  | .replayLatePasses :: rest, r =>
    runSetStateReg isCoro mm passes names required rest
      (r.map fun x => match x with
        | .ok reg => .ok (passes.tail.foldl (fun reg ls => addListeners reg ls names) reg)
        | .error e => .error e)
  | _ :: rest, r => runSetStateReg isCoro mm passes names required rest r

/-- the constructor's script registers machine, model and the constructor's listeners in one pass and remembers that
pass -/
theorem runCtorReg_registerAll (isCoro : CbId → Bool) (mm ctor : List Provider) (names required : List Name) :
    runCtorReg isCoro mm ctor names required Expected.smInit none [] =
      (some (registerAll isCoro (mm ++ ctor) names required), [ctor]) := rfl

/-- `add_listener`'s script is the model's `addListeners` and appends the pass -/
theorem runAddListenerReg_addListeners (ls : List Provider) (names : List Name) (r : Reg) (ps : List (List Provider)) :
    runAddListenerReg ls names Expected.addListener r ps = (addListeners r ls names, ps ++ [ls]) := rfl

/-- **`__setstate__`'s script is the model's `setstateReplay`** -/
theorem runSetStateReg_replay (isCoro : CbId → Bool) (mm : List Provider) (passes : List (List Provider))
    (names required : List Name) :
    runSetStateReg isCoro mm passes names required Expected.setState none =
      some (setstateReplay isCoro mm passes names required) := by
  dsimp only [Expected.setState, runSetStateReg, setstateReplay, Option.map_some]
  cases registerAll isCoro (mm ++ passes.headD []) names required <;> rfl

/-- **C17 (registry), about the scripts**: `__setstate__`'s script, given the remembered passes `ctor :: lates`,
rebuilds exactly the registry (items in executor order, engine kind) of `original`. That a machine constructed over
`ctor` and extended by `lates` remembers these passes is not in the statement (`runCtorReg_registerAll` and
`runAddListenerReg_addListeners` say it call by call and are not composed with it). -/
theorem C17_registry_replay_scripts (isCoro : CbId → Bool) (mm ctor : List Provider) (lates : List (List Provider))
    (names required : List Name) :
    runSetStateReg isCoro mm (ctor :: lates) names required Expected.setState none =
      some (original isCoro mm ctor lates names required) := by
  rw [runSetStateReg_replay]
  rfl

end SMV.Src
