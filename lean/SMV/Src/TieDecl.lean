import SMV.Src.Expected
/-!
# The source-derived scripts of the declaration layer's small functions mean the models (C01, C09, C13)

`Expected.decl` holds what `harness/srcgen.py` derives from `events.py`, `transition.py`, `transition_list.py` and the
builders of `state.py`. Event matching (C01's candidate test), `unique_events` (C13's `allowed_events`) and the
expansion of `from_.any()` (C09) are tied to the models that use them; the remaining functions are pinned as
shapes. The declaration model of C15 (`SMV.Decl`: `addEv`, `uniqueEvents`, `Decl.expandAny`, `copyFor`) mirrors the
same functions by hand; no theorem here relates it to a script.
-/
namespace SMV.Src
open D

/-- **event matching**: `Events.match`, `any(e == event …)`, is the model's `matchesEv`, and `Transition.match`
delegates to it -/
theorem match_matchesEv (tr : Transn) (e : EventId) :
    Expected.decl.eventsMatch.run tr.events e = matchesEv tr e ∧
    Expected.decl.transitionMatch = .delegateToEvents := by
  refine ⟨?_, rfl⟩
  simp only [MatchBody.run, matchesEv, List.contains_eq_any_beq]
  exact List.any_congr rfl fun _ => Bool.beq_comm

theorem contains_insertKey (acc : List Nat) (x y : Nat) :
    (insertKey acc x).contains y = (acc.contains y || y == x) := by
  unfold insertKey
  split
  next h =>
    -- `x` is there already, so for `y = x` both sides are true
    cases hy : y == x
    · exact (Bool.or_false _).symm
    · exact (eq_of_beq hy ▸ h).trans (Bool.or_true _).symm
  next => rw [List.contains_append, List.contains_cons, List.contains_nil, Bool.or_false]

/-- a dict used as an ordered set, filled from a list, holds the list's first occurrences -/
theorem foldl_insertKey (l acc : List Nat) :
    l.foldl insertKey acc = acc ++ (dedupe l).filter (fun y => !acc.contains y) := by
  induction l generalizing acc with
  | nil => simp [dedupe]
  | cons x xs ih =>
    rw [List.foldl_cons, ih, dedupe, List.filter_cons, List.filter_filter]
    simp only [contains_insertKey, Bool.not_or]
    unfold insertKey
    cases acc.contains x
    · exact List.append_assoc ..
    · rfl

/-- **`unique_events` is `dedupe`** -/
theorem runUnique_dedupe (evs : List (List EventId)) :
    runUnique evs Expected.decl.uniqueEvents none = some (dedupe evs.flatten) := by
  simp [Expected.decl, runUnique, foldl_insertKey]

/-- `allowed_events` of a state is the engine model's `allowedEvents` -/
theorem allowed_events_scripts (m : Machine) (s : StateId) :
    runUnique ((out m s).map (·.events)) Expected.decl.uniqueEvents none = some (allowedEvents m s) := by
  rw [runUnique_dedupe]
  simp [allowedEvents, List.flatMap]

/-- the body of **`AnyState._on_event_defined`** is the one `runAny` knows (it recognises this body as a whole and
interprets no other): one transition to the target per non-final state registered so far -/
theorem runAny_filter (isFinal : Nat → Bool) (tgt : Nat) (l : List Nat) :
    runAny isFinal tgt Expected.decl.anyOnEventDefined l =
      some ((l.filter (fun i => !isFinal i)).map (fun i => ⟨i, tgt⟩)) := by
  induction l with
  | nil => rfl
  | cons i rest ih =>
    rw [List.filter_cons, runAny, if_pos (by rfl), ih]
    cases isFinal i <;> rfl

theorem runAny_expandAny (d : Validate.ClassDef) (tgt upto : Nat) :
    runAny d.isFinal tgt Expected.decl.anyOnEventDefined (List.range (min upto d.n)) = some (d.expandAny tgt upto) := by
  rw [runAny_filter]; rfl

/-- `Events._replace`: the old event goes, the new one comes *last* (the reason why several id-less events of one
transition come out in re-binding order: DESIGN §11.5) -/
theorem runReplace_eq (old new : Nat) (l : List Nat) :
    runReplace old new Expected.decl.eventsReplace l = l.erase old ++ [new] := by
  simp [Expected.decl, runReplace]

/-- the shapes the other models assume (`Events.add` splits on runs of whitespace: D46) -/
theorem decl_shapes :
    Expected.decl.tlOr = [.orIsNewListThenAdd] ∧
    Expected.decl.tlAddTransitions = [.unwrapList, .ensureIterable, .appendEachInOrder, .retSelf] ∧
    Expected.decl.tlOnEventDefined = [.addEventToAll, .tellEachSource] ∧
    Expected.decl.tlAddEvent = [.forTransitionsAddEvent] ∧
    Expected.decl.toCall = [.onePerTargetInOrder, .addToOwnState, .ret] ∧
    Expected.decl.fromCall = [.newList, .onePerOriginAddedToOriginAndList, .ret] ∧
    Expected.decl.fromAny = [.callWithAnyState] ∧
    Expected.decl.copyWithArgs = [.popOrOwn "source", .popOrOwn "target", .popOrOwn "event", .popOrOwn "internal",
      .newTransition, .forSpecsShallowCopySameGroup, .ret] ∧
    Expected.decl.eventsAdd = [.returnSelfIfNone, .ensureIterable,
      .forEachSplitOnWhitespace [.skipIfPresent, .appendEventOrNew], .retSelf] :=
  ⟨rfl, rfl, rfl, rfl, rfl, rfl, rfl, rfl, rfl⟩

end SMV.Src
