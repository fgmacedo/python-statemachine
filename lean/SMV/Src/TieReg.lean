import SMV.Src.Expected
/-!
# The source-derived scripts of the callback registry mean the registry model (C12)

`Expected.registry` holds the scripts of `CallbacksExecutor.add`, `CallbackWrapper.__lt__`, `Listeners.search_name`,
`Listeners.resolve`, `CallbacksRegistry.check` and `async_or_sync`. Interpreted, they are `Reg.add`, `Reg.insort`,
`Reg.buildSpec` (for a spec given by name) and `Reg.resolveInto` of `SMV/Model/Registry.lean` — the functions the
`C12_reg_*` theorems are about.
-/
namespace SMV.Src
open SMV.Reg SMV.Prov R

/-- `bisect.insort` over `CallbackWrapper.__lt__` is the model's stable insertion by priority -/
theorem insortBy_insort (e : Reg.Entry) (ex : Reg.Exec) :
    insortBy Expected.registry.lt.lt e ex = Reg.insort e ex := by
  induction ex with
  | nil => rfl
  | cons x xs ih =>
    rw [insortBy, Reg.insort, ih]
    simp only [LtBody.lt, decide_eq_true_eq]

/-- **`CallbacksExecutor.add` as the source says is the model's `add`**: an entry whose (key, expected value) was
seen is ignored, a new one is inserted after every entry whose priority is not greater -/
theorem runAdd_add (e : Reg.Entry) (ex : Reg.Exec) :
    runAdd Expected.registry.lt.lt e Expected.registry.add { items := ex } = some (Reg.add ex e) := by
  -- the script evaluates to `if seen ex e.dk then some ex else some (insortBy _ e ex)`
  rw [Reg.add, ← insortBy_insort, apply_ite some]
  rfl

/-- **`search_name` is `buildSpec`** for a spec given by name: one entry per provider that has the attribute, keyed
`name@provider`, in provider order (a shape theorem: `runSearchName` answers `none` to any other loop body) -/
theorem runSearchName_buildSpec (n : Name) (s : Reg.Spec) (hs : s.ref = .name n) (ps : List Provider) :
    runSearchName Expected.registry.searchName n s ps = some (buildSpec ps s) := by
  simp only [buildSpec, hs]
  induction ps with
  | nil => rfl
  | cons p ps ih =>
    rw [runSearchName, ih, List.filterMap_cons]
    cases offers p n <;> rfl

/-- folding `add` over nothing changes nothing: why the convention filter of `resolve`, which skips specs that build
nothing, is not in the model -/
theorem foldl_add_nil (ex : Reg.Exec) : ([] : List Reg.Entry).foldl Reg.add ex = ex := rfl

/-- **`Listeners.resolve` is `resolveInto`**, executor by executor; `safe`: a `SPECS_SAFE` pass, which skips
callables (a shape theorem: `runResolve` answers `none` to any other script) -/
theorem runResolve_resolveInto (safe : Bool) (ps : List Provider) (g : Reg.Group) (specs : List Reg.Spec)
    (ex : Reg.Exec) :
    runResolve buildSpec Reg.add safe ps g specs Expected.registry.resolve ex =
      some (resolveInto safe ps g ex specs) := by
  -- on this script `runResolve` evaluates to `some (specs.foldl _ ex)`; unfolding it by `simp` first derives its
  -- equations (a `match` on the whole script), which is slow
  refine congrArg some (congrArg (specs.foldl · ex) ?_)
  funext ex s
  -- the convention filter only skips a spec that builds nothing (`foldl_add_nil`)
  have filter (c : Bool) : (if (false || c && (buildSpec ps s).isEmpty) = true then ex
      else if (s.group != g) = true then ex else (buildSpec ps s).foldl Reg.add ex) =
        if (s.group != g) = true then ex else (buildSpec ps s).foldl Reg.add ex := by
    cases buildSpec ps s <;> simp
  cases s.ref <;> cases safe
  · exact filter _
  · exact filter _
  · exact filter _
  · simp

/-- `check` refuses an instance when a spec the class names explicitly resolved to nothing (conventions are
optional), and the engine kind looks at every callback of every executor -/
theorem check_shape :
    Expected.registry.check = [.skipConventions, .continueIfResolved, .raiseNamesNotFound, .raiseNotFound] ∧
    Expected.registry.asyncOrSync = [.anyCoroutineInAnyExecutor] := ⟨rfl, rfl⟩

end SMV.Src
