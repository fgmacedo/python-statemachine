import SMV.Src.Expected
/-!
# The source-derived scripts of `contrib/diagram.py` mean the diagram model (C18)

`Expected.diagram` holds the scripts of `get_graph`, `_state_as_node`, `_transition_as_edge`, `_current_state`,
`_state_actions`, `_initial_node`, `_initial_edge`. Interpreted, `get_graph` over the scripts of the node and edge
builders makes exactly the `add_node` / `add_edge` calls of the model's `build`, with the state the nodes are compared
with chosen as `getGraph` chooses it.
-/
namespace SMV.Src
open SMV.Diagram G

/-- `_state_as_node` builds the model's `stateNode` -/
theorem runNode_stateNode (cur : Option Diagram.StateDef) (s : Diagram.StateDef) :
    runNode cur s Expected.diagram.stateAsNode {} = some (stateNode cur s) := rfl

/-- `_transition_as_edge` builds the model's `transEdge` -/
theorem runEdge_transEdge (s : Diagram.StateDef) (t : Diagram.TransDef) :
    runEdge s t Expected.diagram.transitionAsEdge false = some (transEdge s t) := rfl

/- The two loop bodies are not fields of `Expected.diagram` but nested inside its `getGraph` script: the loop lemmas
are about the bodies found there, written out, and `runGraph_build` unfolds `Expected.diagram` to meet them. -/

theorem runTLoop_transItems (s : Diagram.StateDef) (ts : List Diagram.TransDef) :
    runTLoop (transEdge s) [.skipInternal, .addEdge] ts = transItems s ts := by
  induction ts with
  | nil => rfl
  | cons t ts ih =>
    simp only [runTLoop, runTLoop.go, transItems, ih]
    cases t.internal <;> simp

theorem runSLoop_stateItems (cur : Option Diagram.StateDef) (ss : List Diagram.StateDef) :
    runSLoop (stateNode cur) transEdge [.addStateNode, .forTransitions [.skipInternal, .addEdge]] ss =
      stateItems cur ss := by
  induction ss with
  | nil => rfl
  | cons s ss ih =>
    simp only [runSLoop, runSLoop.go, stateItems, ih, runTLoop_transItems]
    simp

/-- **`get_graph` makes the `add_node` / `add_edge` calls of the model's `build`**, in the same order -/
theorem runGraph_build (m : Diagram.Machine) (ini : Diagram.StateDef) (cur : Option Diagram.StateDef) :
    runGraph m ini (stateNode cur) transEdge Expected.diagram.getGraph none = some (build m ini cur).items := by
  rw [build, ← runSLoop_stateItems]
  rfl

/-- `runGraph_build` with the node and edge builders taken from their own scripts -/
theorem runGraph_scripts (m : Diagram.Machine) (ini : Diagram.StateDef) (cur : Option Diagram.StateDef) :
    runGraph m ini (fun s => (runNode cur s Expected.diagram.stateAsNode {}).getD default)
      (fun s t => (runEdge s t Expected.diagram.transitionAsEdge false).getD default)
      Expected.diagram.getGraph none = some (build m ini cur).items :=
  runGraph_build m ini cur

/-- `_current_state` chooses the state the nodes are compared with as `getGraph` does (a machine whose model holds no
state highlights nothing: D38). `runCurrent` answers `none` only to a script of another shape; the value of that branch
is a filler (under `hi` the right-hand side is never `noInitialState`), so the equation also says that the script has
the shape `runCurrent` knows. -/
theorem runCurrent_getGraph (m : Diagram.Machine) (sub : Diagram.Subject) (ini : Diagram.StateDef) (hi : Diagram.initialState m = some ini) :
    (match runCurrent m sub Expected.diagram.currentState with
      | some (.ok cur) => Except.ok (build m ini cur)
      | some (.error e) => Except.error e
      | none => Except.error .noInitialState) = getGraph m sub := by
  rw [getGraph, hi]
  cases sub with
  | inst v =>
    dsimp only [Expected.diagram, runCurrent]
    cases lookupValue m.states v <;> rfl
  | _ => rfl

/-- the label of a state lists `entry / …`, `exit / …` and the internal transitions as `event / on-actions`, empty
parts left out; the pseudo-node is called `i` and the initial edge leads from it to `machine.initial_state` -/
theorem diagram_shapes :
    Expected.diagram.stateActions = [.getter, .entryOfEnter, .exitOfExit, .internalsEventSlashOn, .prefixEntry,
      .prefixExit, .joinNonEmptyLines, .leadingNewlineIfAny, .ret] ∧
    Expected.diagram.initialNode = initId ∧
    Expected.diagram.initialEdge = (initId, "self.machine.initial_state.id") := ⟨rfl, rfl, rfl⟩

end SMV.Src
