import SMV.Src.Expected
/-!
# The glue, as the source says (C05, C10, C11, C16)

`utils.run_async_from_sync` is what every call into an async machine from code without a running loop goes through
(the facade drivers of C05 / C11 / C16); `MachineMixin.__init__` is the second way a machine comes to stand over a
stored state (C10, C11); `registry.register` and `qualname` are process-wide state the frame theorem of C16 does not
have in its model; the attributes of the two exceptions are what the correspondence compares when an event is refused
(C01) or a stored value is rejected (C10).
-/
namespace SMV.Src
open K

/-- from code without a running loop, the coroutine is run to completion on a loop that belongs to the calling thread
and is kept between calls — so two threads never share a loop, and a second call finds the futures of the first; inside
a running loop the coroutine is handed back for the caller to await -/
theorem facade_runs_to_completion_on_a_per_thread_loop :
    Expected.glue.runAsyncFromSync =
      [.insideLoopHandBackCoroutine, .perThreadLoopKept, .runToCompletion, .onInterruptCancelDrainReraise] := rfl

/-- a string is one item, anything iterable is iterated, anything else is one item -/
theorem ensure_iterable_shape : Expected.glue.ensureIterable = [.stringIsOneItem, .iteratorElseOneItem] := rfl

/-- the mixin builds the machine *after* the model's own constructor has run (the stored state is there to be read:
C11's resume) and over the model itself (C10's single storage), refusing a missing machine name -/
theorem mixin_constructs_over_the_initialised_model :
    Expected.glue.mixinInit =
      [.superInitFirst, .requireMachineName, .lookUpClass, .constructOverSelf, .attach, .bindEventsIfAsked] := rfl

/-- the refused event and the state it was refused in are on the exception; the rejected value is on the other -/
theorem exceptions_carry :
    Expected.glue.notAllowedCarries = ["event", "state"] ∧ Expected.glue.invalidStateCarries = ["value"] :=
  ⟨rfl, rfl⟩

/-- the only process-wide table: classes by qualified name and by bare name (a later class of the same name replaces the
bare entry; nothing in the engine reads the table) -/
theorem registry_keys :
    Expected.glue.registryKeys = ["qualname(cls)", "cls.__name__"] ∧ Expected.glue.qualnameIsModuleDotName = true :=
  ⟨rfl, rfl⟩

end SMV.Src
