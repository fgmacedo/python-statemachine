import SMV.Src.Expected
/-!
# Names inside guard expressions, as the source says (C07, C08, C12)
-/
namespace SMV.Src
open T SMV.GExpr

/-- **`_take_callback` is the model's `provExpr`**: a name stands for the conjunction (`reduce(custom_and, …)`, in
provider order) of what its providers offer; a single provider for itself; none for `allways_true` — and exactly then
the name is reported as not found (the model's `unknowns`) -/
theorem runTake_provExpr (slots : List Nat) :
    runTake slots Expected.takeCallback.take = some (provExpr slots, slots.isEmpty) := by
  cases slots with
  | nil => rfl
  | cons s ss => cases ss <;> rfl

/-- the expression `build_expression` builds with `variable_hook = _take_callback` is `subst prov e` at every name -/
theorem name_is_conjunction_of_providers (prov : Nat → List Nat) (n : Nat) :
    (runTake (prov n) Expected.takeCallback.take).map (·.1) = some (subst prov (.name n)) := by
  rw [runTake_provExpr]; simp [subst]

/-- `Listeners.build`: specs that cannot hold an expression go through `search`; otherwise the text is parsed (a syntax
error is `InvalidDefinition`, at once), an expression some name of which nobody provides registers nothing — the names
are kept for the constructor's check —, else the expression is yielded under its own key -/
theorem build_shape :
    Expected.takeCallback.build = [.plainSpecsSearch, .prepareNotFound, .parseOrInvalidDefinition,
      .registerNothingIfNamesMissing, .yieldExpression] ∧
    Expected.takeCallback.search = [.dispatchOnReference, .boundMethodOfFirstProviderElseFunction,
      .firstProviderWhoseClassHasThatProperty] := ⟨rfl, rfl⟩

end SMV.Src
