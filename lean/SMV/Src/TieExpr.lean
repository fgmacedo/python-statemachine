import SMV.Src.Expected
/-!
# The closures of `spec_parser.py` mean the clauses of the expression model

`Expected.parser` is what `harness/srcgen.py` reads off `statemachine/spec_parser.py`. The `return` statement of each
inner closure (`custom_not`, `custom_and`, `custom_or`, the comparator) is given its one-step meaning (`step…`;
`Expected.parser` is a constant, so only the clause for the body found there is ever taken). The clauses of `evalLib`
(the model `C08_eval` is about) for `not`, `and`, `or` are exactly these steps; so is, for a comparison, the value of
the last link when its right operand evaluates (`chainLib_last`): reads, a failing operand and the folding of a longer
chain are a shape here, not a theorem. The remaining fields are read back as they stand (`parser_shape`).
-/
namespace SMV.Src
open SMV.GExpr

/-- `return not predicate(…)` -/
def stepNot : CombBody → R → R
  | .notCall, r => ⟨r.val.map (fun v => .bool (!truthy v)), r.reads⟩
  | _, r => r

/-- `return left(…) and right(…)` -/
def stepAnd : CombBody → R → (Unit → R) → R
  | .andCalls, ra, rb =>
    match ra.val with
    | none => ra
    | some va => if truthy va then let r := rb (); ⟨r.val, ra.reads ++ r.reads⟩ else ra
  | _, ra, _ => ra

/-- `return left(…) or right(…)` -/
def stepOr : CombBody → R → (Unit → R) → R
  | .orCalls, ra, rb =>
    match ra.val with
    | none => ra
    | some va => if truthy va then ra else let r := rb (); ⟨r.val, ra.reads ++ r.reads⟩
  | _, ra, _ => ra

/-- `return bool(operator(left(…), right(…)))` on two operand values -/
def stepCmp : CombBody → Sem → Cmp → V → V → Option V
  | .boolOfOp, S, op, l, r => (S.cmp op l r).map V.bool
  | _, _, _, l, _ => some l

theorem evalLib_not (S : Sem) (ρ : Env) (re : Bool) (e : E) :
    evalLib S ρ re (.not e) = stepNot Expected.parser.notB (evalLib S ρ re e) := rfl

theorem evalLib_and (S : Sem) (ρ : Env) (re : Bool) (a b : E) :
    evalLib S ρ re (.and a b) = stepAnd Expected.parser.andB (evalLib S ρ re a) (fun _ => evalLib S ρ re b) := rfl

theorem evalLib_or (S : Sem) (ρ : Env) (re : Bool) (a b : E) :
    evalLib S ρ re (.or a b) = stepOr Expected.parser.orB (evalLib S ρ re a) (fun _ => evalLib S ρ re b) := rfl

/-- the last link of a chain of comparisons is the comparator's closure on the two operand values -/
theorem chainLib_last (S : Sem) (ρ : Env) (re : Bool) (lv : V) (op : Cmp) (r : E) (rv : V)
    (h : (evalLib S ρ re r).val = some rv) :
    (chainLib S ρ re lv (.last op r)).val = stepCmp Expected.parser.cmpB S op lv rv := by
  rw [chainLib, h]
  rfl

/-- Of the `isinstance` branches the first five and the last: between them stand three `.legacyConstant` branches for
the Python 3.7 spellings of constants, which are not modelled. `parse_boolean_expr`: blank text is a `SyntaxError`; a
bare identifier that is not a keyword is looked up at once; everything else is rewritten, parsed by CPython and built. -/
theorem parser_shape :
    Expected.parser.mapping =
      [("ast.And", "custom_and"), ("ast.Eq", "build_custom_operator(operator.eq)"),
       ("ast.Gt", "build_custom_operator(operator.gt)"), ("ast.GtE", "build_custom_operator(operator.ge)"),
       ("ast.Lt", "build_custom_operator(operator.lt)"), ("ast.LtE", "build_custom_operator(operator.le)"),
       ("ast.Not", "custom_not"), ("ast.NotEq", "build_custom_operator(operator.ne)"), ("ast.Or", "custom_or")] ∧
    Expected.parser.branches.take 5 = [.boolOpFoldLeft, .compareLinksAnd, .unaryNot, .name, .constant] ∧
    Expected.parser.branches.getLast? = some .unsupported ∧
    Expected.parser.parse = [.rejectBlank, .fastPathName, .replaceOperators, .parseEval, .build] ∧
    Expected.parser.replacements = [("!", " not "), ("^", " and "), ("v", " or ")] ∧
    Expected.parser.constB = .constant := ⟨rfl, rfl, rfl, rfl, rfl, rfl⟩

end SMV.Src
