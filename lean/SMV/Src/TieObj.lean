import SMV.Src.Expected
/-!
# The declared objects, as the source says (C09, C10, C13, C15)
-/
namespace SMV.Src
open O

/-- **a declared value is kept whatever its truth value**: `_set_id` replaces the value by the id only when none was
given (`is None`), so a state declared with `value=0`, `""` or `False` is stored as that value — for every truth test
`falsy` (the store model's `valueOf` takes the declared value as it is: C10) -/
theorem setId_keeps_a_given_value (falsy : Nat → Bool) (id : String) (s : St) (v : Nat) (h : s.value = some v) :
    runSetId falsy id Expected.objects.setId s = { s with id := id, named := true } := by
  simp [Expected.objects, runSetId, h]

/-- a state declared without a value takes its id as value -/
theorem setId_defaults_to_the_id (falsy : Nat → Bool) (id : String) (s : St) (h : s.value = none) :
    runSetId falsy id Expected.objects.setId s = { s with id := id, valueIsId := true, named := true } := by
  simp [Expected.objects, runSetId, h]

/-- with a truth test in place of `is None`, `setId_keeps_a_given_value` is false: the witness the script would have to
match -/
example : runSetId (fun v => v == 0) "s" [.assignId, .valueDefaultsToId .falsy, .nameDefaultsFromId] { value := some 0 }
    = { id := "s", value := none, valueIsId := true, named := true } := rfl

/-- every `State` has a transition list and a spec list of its own, its inline `enter` / `exit` callbacks are added
with priority INLINE to the ENTER / EXIT groups of that list -/
theorem stateInit_shape :
    Expected.objects.stateInit = [.field "name" "name", .field "value" "value", .field "_initial" "initial",
      .field "_final" "final", .emptyId, .ownTransitionList, .ownSpecList, .enterInline, .exitInline] := rfl

/-- `Machine.state` is the declared object, `instance.state` the per-machine `InstanceState` from that machine's own
cache; assigning to it is refused -/
theorem state_descriptor_shape :
    Expected.objects.stateGet = [.classAccessItself, .instanceAccessCachedPerMachine] ∧
    Expected.objects.stateSet = [.raiseOverriding] := ⟨rfl, rfl⟩

/-- `States`: keyed by id, iterated in declaration order; `from_enum` makes one state per member in member order, its
value the member's value (or the member), initial by identity, final by membership -/
theorem states_shape :
    Expected.objects.states = [.ownDictUnlessGiven, .appendKeyedById, .iterValuesInOrder,
      .getattrByKeyElseAttributeError, .enumFinalSet, .enumOneStatePerMember] := rfl

/-- an `Event` is the string of its id; an id is real iff one was given, a name is derived only from a real id -/
theorem eventNew_shape :
    Expected.objects.eventNew = [.stringFirstArgumentIsTheId, .realIdIffGiven, .idStrElseFresh, .strOfId, .assignId,
      .nameGivenElseFromRealIdElseEmpty, .keepTransitionsIfAny, .assignHasRealId, .assignMachine, .ret] := rfl

/-- a spec keeps what it was given; how it is resolved depends on the kind of `func` only; only a named, non-convention
condition may hold a boolean expression -/
theorem specInit_shape :
    Expected.objects.specInit = [.field "func" "func", .field "group" "group", .field "is_convention" "is_convention",
      .field "is_event" "is_event", .field "cond" "cond", .field "expected_value" "expected_value",
      .field "priority" "priority", .referenceByKindOfFunc, .expressionOnlyInNamedConditionsNotConvention] := rfl

end SMV.Src
