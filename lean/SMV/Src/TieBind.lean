import SMV.Src.Expected
import SMV.Props.C07
/-!
# The source-derived script of `bind_expected` means the binder model (C07)

`Expected.bindExpected` is what `harness/srcgen.py` derives from `statemachine/signature.py`,
`Expected.callableMethod` from `dispatcher.callable_method`. Interpreting them (`B.runBind`, `B.runC`) is
`Bind.bindExpected true` / `Bind.invokeWith true` of the model, for every signature, every list of positional arguments
and every keyword dict: the C07 theorems are theorems about what the source says. On every run the harness
(`harness/framework.py`) has the kernel decide that the script regenerated from the tree under test is the expected one.
-/
namespace SMV.Src
open SMV.Bind B

/-- the two blocks of the `while True` loop and the body of the second loop, copied from `Expected.bindExpected` so
that the lemmas have names for them; `bindExpected_shape` checks the copy. (The last test of `noArgBlk`, on `**kwargs`
or a default, has the same statements in both arms: so has the source.) -/
def noArgBlk : BBlock :=
  blk [.ite (.kindIs .vp) (blk [.act .brk])
    (blk [.ite .nameInKw
      (blk [.ite (.kindIs .po) (blk [.act .raiseTypeError]) (blk []), .act .pushBack, .act .brk])
      (blk [.ite (.or (.kindIs .vk) .hasDefault)
        (blk [.act .pushBack, .act .brk]) (blk [.act .pushBack, .act .brk])])])]

def withArgBlk : BBlock :=
  blk [.ite (.kindIs .vk) (blk [.act .rememberVk, .act .brk]) (blk []),
    .ite (.kindIs .ko) (blk [.act .pushBack, .act .brk]) (blk []),
    .ite (.kindIs .vp) (blk [.act .fillVarPos, .act .brk]) (blk []),
    .ite (.and .nameInKw (.kindNe .po)) (blk [.act .assignPop]) (blk [.act .assignArg])]

def forBlk : BBlock :=
  blk [.ite (.kindIs .vk) (blk [.act .rememberVk, .act .cont]) (blk []),
    .ite (.kindIs .vp) (blk [.act .cont]) (blk []), .act .popIfPresent]

-- with the interpreter's equations, `simp` runs a block as soon as the block's name is unfolded
attribute [local simp] blk runBlk runStmt doAct BCond.holds

/-- the derived script is made of exactly these blocks, so the lemmas below are about it -/
theorem bindExpected_shape :
    Expected.bindExpected =
      [.initArguments, .iterParameters, .iterArgs, .initEx, .initVk, .whileLoop noArgBlk withArgBlk,
       .forRest forBlk, .storeRestKw, .retBound] := rfl

/-- the parameters still to visit after the loop are `chain(parameters_ex, parameters)` -/
def toP1 (r : BSt × List Param) : P1 := ⟨r.1.args, r.1.kw, r.1.ex ++ r.2, r.1.vk⟩

/-- the `while True` loop of the source is `phase1` -/
theorem runWhile_phase1 (ps : List Param) (args : List Val) (kw : KW) (acc : Arguments) :
    (runWhile noArgBlk withArgBlk ps ⟨acc, kw, [], none, args⟩).map toP1 = phase1 true ps args kw acc := by
  induction ps generalizing args kw acc with
  | nil => cases args <;> rfl
  | cons p ps ih =>
    obtain ⟨n, k, d⟩ := p
    cases args with
    | nil =>
      -- the cases are the tests the block makes (`*args`? the name among the keywords? positional-only?), not the five
      -- kinds: `simp` runs the block once in each
      by_cases h1 : k = .vp
      · subst h1; rfl
      cases h : kwGet kw n
      · simp [runWhile, phase1, toP1, noArgBlk, h, h1]
      · by_cases h2 : k = .po <;>
          simp [runWhile, phase1, toP1, noArgBlk, h, h1, h2]
    | cons a as =>
      cases k
      case po | pk =>
        cases h : kwGet kw n <;>
          simp [runWhile, phase1, withArgBlk, h] <;> exact ih as _ _
      -- `*args`, a keyword-only parameter and `**kwargs` end the loop without a look at the keywords
      all_goals rfl

theorem forBlk_step (p : Param) (s : BSt) :
    runBlk p none forBlk s =
      match p.kind with
      | .vk => .cont { s with vk := some p }
      | .vp => .cont s
      | _ =>
        match kwGet s.kw p.name with
        | some v => .next { s with args := s.args ++ [(p.name, .one v)], kw := kwErase s.kw p.name }
        | none => .next s := by
  obtain ⟨n, k, d⟩ := p
  by_cases h1 : k = .vk
  · subst h1; rfl
  by_cases h2 : k = .vp
  · subst h2; rfl
  cases h : kwGet s.kw n <;> simp [forBlk, h, h1, h2]

/-- the second loop of the source is `phase2` -/
theorem runFor_phase2 (ps : List Param) (s : BSt) :
    B.runFor forBlk ps s =
      some { s with args := (phase2 ps s.kw s.args s.vk).1, kw := (phase2 ps s.kw s.args s.vk).2.1,
                    vk := (phase2 ps s.kw s.args s.vk).2.2 } := by
  induction ps generalizing s with
  | nil => rfl
  | cons p ps ih =>
    rw [B.runFor, forBlk_step, phase2]
    cases p.kind
    case vk | vp => exact ih _
    all_goals cases kwGet s.kw p.name <;> exact ih _

/-- **The script of `bind_expected` means the model's `bindExpected`** (with the repair of D5 in place) -/
theorem runBind_bindExpected (sig : List Param) (args : List Val) (kw : KW) :
    runBind Expected.bindExpected sig args kw = bindExpected true sig args kw := by
  rw [bindExpected, ← runWhile_phase1, bindExpected_shape]
  -- named before the script is unfolded: afterwards `generalize` would have to find it in the unfolded goal
  generalize hX : runWhile noArgBlk withArgBlk sig ⟨[], kw, [], none, args⟩ = X
  -- `dsimp`, not `simp`: `simp` rewrites the test of `if kwargs:` and leaves its `Decidable` instance as it was, which
  -- `generalize phase2 … = r` below would then have to abstract as well
  dsimp only [runBind, runF, FSt.pack, FSt.unpack]
  rw [hX]
  rcases X with _ | ⟨s, ps⟩
  · rfl
  · simp only [Option.map_some, toP1, runFor_phase2, finalize]
    generalize phase2 _ _ _ _ = r
    obtain ⟨a, k2, v⟩ := r
    cases v <;> cases k2 <;> rfl

/-- **`callable_method`**: both adapters (the plain one and the `async def` one) bind with the adapter's signature
and call the callable with `*ba.args, **ba.kwargs` — `invokeWith` of the model -/
theorem runC_invokeWith (isCoroutine : Bool) (adapter own : List Param) (args : List Val) (kw : KW) :
    runC (runBind Expected.bindExpected) adapter own args kw (Expected.callableMethod.body isCoroutine) none
      = invokeWith true adapter own args kw := by
  -- the two bodies differ in the `await` only, which `runC` does not look at
  cases hb : bindExpected true adapter args kw <;> cases isCoroutine <;>
    simp [Expected.callableMethod, CallableScript.body, runC, runBind_bindExpected, invokeWith, hb]

/-- the `async def` adapter awaits the callable, the plain one does not; the adapter is asked for the callable itself -/
theorem callable_shape :
    Expected.callableMethod.awaitsOk = true ∧ Expected.callableMethod.pre = [.adapterOfCallable] ∧
    Expected.callableMethod.post = [.markCoroutine, .retAdapter] := ⟨rfl, rfl, rfl⟩

/-- **C07 at the level of the source.** What the adapter built by `callable_method` — its script over the script of
`bind_expected` — hands to a callback with a well-formed signature *is* the Spec (outside the one corner where
CPython's own `TypeError` is demanded), for the plain and the `async def` adapter alike. -/
theorem C07_receive_scripts (isCoroutine : Bool) (sig : List Param) (args : List Val) (kw : KW) (hwf : WF sig)
    (hc : corner sig args kw = false) :
    runC (runBind Expected.bindExpected) sig sig args kw (Expected.callableMethod.body isCoroutine) none
      = specCall sig args kw := by
  rw [runC_invokeWith]
  exact C07_receive_exact sig args kw hwf hc

/-- the scripts never raise a `TypeError` the Spec does not demand -/
theorem C07_no_spurious_scripts (isCoroutine : Bool) (sig : List Param) (args : List Val) (kw : KW) (hwf : WF sig)
    (h : runC (runBind Expected.bindExpected) sig sig args kw (Expected.callableMethod.body isCoroutine) none = none) :
    Unsupplied sig args kw ∨ PosOnlyByKeyword sig args kw := by
  rw [runC_invokeWith] at h
  exact C07_no_spurious_typeerror sig args kw hwf h

/-- non-vacuity: a signature with every kind of parameter, surplus positionals, unknown and known keywords -/
example :
    runC (runBind Expected.bindExpected)
      [⟨10, .po, false⟩, ⟨11, .pk, true⟩, ⟨12, .vp, false⟩, ⟨13, .ko, true⟩, ⟨14, .vk, false⟩]
      [⟨10, .po, false⟩, ⟨11, .pk, true⟩, ⟨12, .vp, false⟩, ⟨13, .ko, true⟩, ⟨14, .vk, false⟩]
      [1, 2, 3] [(13, 7), (99, 8)] (Expected.callableMethod.body false) none
    = some [(10, .one 1), (11, .one 2), (12, .tuple [3]), (13, .one 7), (14, .dict [(99, 8)])] := by
  -- `rfl`, enough for the model's `invoke` in the C07 examples, does not get through the script interpreter
  decide +kernel

end SMV.Src
